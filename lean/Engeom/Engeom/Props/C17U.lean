import Engeom.Props.C17
import Engeom.Props.C17T
import Engeom.Lemmas.RealScalar
/-
  C17 — theorems about the REGENERATED code (over ℝ): the ties of Props/C17T composed with the theorems of Props/C17,
  and, directly, fragments with no model function behind them: the point count of `Series1::resampled_x`, the
  per-segment test and crossing abscissa of `Series1::y_crossings`, the closing test of `Series1::between`.
-/
namespace C17U

theorem ascending_order_accepts_exactly_the_ascending (vs : List ℝ) :
    GenRs.are_in_ascending_order vs = true ↔ C17.Sorted vs := by
  rw [C17T.ascending_eq]
  exact C17.ascending_iff vs

theorem ofNatS_real : (C17T.ofNatS : Nat → ℝ) = fun (i : Nat) => ((i : Nat) : ℝ) :=
  funext ofRatR_nat

theorem linear_space_spec (a b : ℝ) (n : Nat) (hn : 2 ≤ n) :
    C17.Sorted (GenRs.linear_space a b n) ∧ (GenRs.linear_space a b n).length = n ∧
    (GenRs.linear_space a b n).head? = some (min a b) ∧ (GenRs.linear_space a b n).getLast? = some (max a b) := by
  rw [C17T.linear_space_eq, ofNatS_real]
  exact C17.domLinear_spec a b n hn

theorem domain_linear_spec (a b : ℝ) (n : Nat) (hn : 2 ≤ n) :
    C17.Sorted (GenRs.DiscreteDomain_linear a b n) ∧ (GenRs.DiscreteDomain_linear a b n).length = n ∧
    (GenRs.DiscreteDomain_linear a b n).head? = some (min a b) ∧
    (GenRs.DiscreteDomain_linear a b n).getLast? = some (max a b) := by
  rw [C17T.domain_linear_eq, ofNatS_real]
  exact C17.domLinear_spec a b n hn

/-- the `n` of `Series1::resampled_x` before rounding; the `⌈·⌉` of the next two theorems is its `n.ceil() as usize`, which
    the translator's pattern for this fragment requires behind the expression -/
theorem resampled_x_count_eq (lo hi sp : ℝ) : GenRs.resampled_x_count lo hi sp = 1 + (hi - lo) / sp := rfl

/-- However coarse the spacing, both end points survive (a count rounded to the NEAREST integer would be 1 for every
    spacing above twice the span). -/
theorem resampled_x_at_least_two_points (lo hi sp : ℝ) (hspan : lo < hi) (hsp : 0 < sp) :
    (2 : ℤ) ≤ ⌈GenRs.resampled_x_count lo hi sp⌉ := by
  rw [resampled_x_count_eq, Int.ceil_one_add]
  exact Int.add_le_add_left (Int.one_le_ceil_iff.mpr (div_pos (sub_pos.mpr hspan) hsp)) 1

/-- With the rounded-up count `n` the step `span / (n − 1)` of `resampled_n` is at most the requested spacing. -/
theorem resampled_x_step_within_spacing (lo hi sp : ℝ) (hspan : lo < hi) (hsp : 0 < sp) :
    (hi - lo) / (((⌈GenRs.resampled_x_count lo hi sp⌉ : ℤ) : ℝ) - 1) ≤ sp := by
  -- `n − 1 = ⌈span/spacing⌉ ≥ span/spacing > 0`
  rw [resampled_x_count_eq, Int.ceil_one_add, Int.cast_add, Int.cast_one, add_sub_cancel_left]
  have hd : 0 < (hi - lo) / sp := div_pos (sub_pos.mpr hspan) hsp
  have hc : (hi - lo) / sp ≤ ⌈(hi - lo) / sp⌉ := Int.le_ceil _
  rw [div_le_iff₀ (hd.trans_le hc)]
  calc hi - lo = sp * ((hi - lo) / sp) := (mul_div_cancel₀ _ hsp.ne').symm
    _ ≤ sp * ⌈(hi - lo) / sp⌉ := mul_le_mul_of_nonneg_left hc hsp.le

example : (2 : ℤ) ≤ ⌈GenRs.resampled_x_count 0 1 (10 : ℝ)⌉ := resampled_x_at_least_two_points 0 1 10 (by norm_num) (by norm_num)

/-- ends included: a knot exactly on the level is examined from both of its segments -/
theorem crossing_test_iff (v0 v1 y : ℝ) :
    GenRs.crossing_test v0 v1 y = true ↔ min v0 v1 ≤ y ∧ y ≤ max v0 v1 := by
  unfold GenRs.crossing_test
  simp only [Bool.or_eq_true, Bool.and_eq_true, decide_eq_true_eq]
  constructor
  · rintro (⟨h1, h2⟩ | ⟨h1, h2⟩)
    · exact ⟨le_trans (min_le_left _ _) h1, le_trans h2 (le_max_right _ _)⟩
    · exact ⟨le_trans (min_le_right _ _) h2, le_trans h1 (le_max_left _ _)⟩
  · rintro ⟨h1, h2⟩
    rcases le_total v0 v1 with h | h
    · left; rw [min_eq_left h] at h1; rw [max_eq_right h] at h2; exact ⟨h1, h2⟩
    · right; rw [min_eq_right h] at h1; rw [max_eq_left h] at h2; exact ⟨h2, h1⟩

/-- `hx`, `hv`: `y_crossings` computes `crossing_x` only where the slope is finite (not `x0 = x1`) and non-zero (not `v0 = v1`) -/
theorem crossing_x_is_where_the_interpolant_equals_the_level (x0 x1 v0 v1 y : ℝ) (hx : x0 < x1) (hv : v0 ≠ v1)
    (ht : GenRs.crossing_test v0 v1 y = true) :
    let x := GenRs.crossing_x x0 v0 (GenRs.crossing_slope x0 x1 v0 v1) y
    v0 + (x - x0) * ((v1 - v0) / (x1 - x0)) = y ∧ x0 ≤ x ∧ x ≤ x1 := by
  intro x
  have hd : 0 < x1 - x0 := sub_pos.mpr hx
  have hdv : v1 - v0 ≠ 0 := sub_ne_zero.mpr hv.symm
  -- the level is reached at the parameter `t = (y − v0)/(v1 − v0) ∈ [0, 1]` of the segment, on both axes
  obtain ⟨t, ht0, ht1, hy⟩ : ∃ t : ℝ, 0 ≤ t ∧ t ≤ 1 ∧ y - v0 = t * (v1 - v0) := by
    have ht' : (v0 ≤ y ∧ y ≤ v1) ∨ (y ≤ v0 ∧ v1 ≤ y) := by simpa [GenRs.crossing_test] using ht
    refine ⟨(y - v0) / (v1 - v0), ?_, ?_, (div_mul_cancel₀ _ hdv).symm⟩ <;> rcases ht' with ⟨h1, h2⟩ | ⟨h1, h2⟩
    · exact div_nonneg (sub_nonneg.mpr h1) (sub_nonneg.mpr (h1.trans h2))
    · exact div_nonneg_of_nonpos (sub_nonpos.mpr h1) (sub_nonpos.mpr (h2.trans h1))
    · exact div_le_one_of_le₀ (sub_le_sub_right h2 v0) (sub_nonneg.mpr (h1.trans h2))
    · exact (div_le_one_of_neg (sub_neg.mpr (lt_of_le_of_ne (h2.trans h1) hv.symm))).mpr (sub_le_sub_right h2 v0)
  have hxt : x = x0 + t * (x1 - x0) := by
    show x0 + (y - v0) / ((v1 - v0) / (x1 - x0)) = _
    rw [hy, div_div_eq_mul_div, mul_right_comm, mul_div_cancel_right₀ _ hdv]
  rw [hxt]
  refine ⟨by rw [add_sub_cancel_left, mul_assoc, mul_div_cancel₀ _ hd.ne']; linarith, ?_, ?_⟩
  · exact le_add_of_nonneg_right (mul_nonneg ht0 hd.le)
  · linarith [mul_le_mul_of_nonneg_right ht1 hd.le]

example : GenRs.crossing_test 1 0 (0 : ℝ) = true ∧ GenRs.crossing_test 0 1 (0 : ℝ) = true := by
  constructor <;> rw [crossing_test_iff] <;> norm_num

/-- `Series1::between` copies the knots up to the upper bound (`h`) and then appends the bound if the test says so.  The
    statement writes that step out as `if test then x1 else last`; it is not a theorem about the model's `serBetween`. -/
theorem slice_ends_exactly_at_the_upper_bound (last x1 : ℝ) (h : last ≤ x1) :
    (if GenRs.between_closing_test last x1 = true then x1 else last) = x1 := by
  unfold GenRs.between_closing_test
  split_ifs with hl
  · rfl
  · exact le_antisymm h (not_lt.mp (by simpa using hl))

theorem closing_point_added_iff_strictly_below (last x1 : ℝ) :
    GenRs.between_closing_test last x1 = true ↔ last < x1 := by
  unfold GenRs.between_closing_test; simp

end C17U
