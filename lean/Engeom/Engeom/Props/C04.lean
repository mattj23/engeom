import Engeom.Lemmas.Curve
import Engeom.Lemmas.Basics
/-
  C04 — Curve portions, splits, trims and reversal conserve length and endpoints.
  About the model of `between_lengths` and its relatives (Engeom/Model/Curve.lean), which is the Rust loop ported
  statement by statement: an ill-posed request yields nothing; the walk emits the start point and then only stored
  vertices, within its fuel; which piece the control length selects; reversing a vertex list keeps the sum of its
  edge lengths.  (The title is the property's; no statement here equates a length or an end point of a portion
  with one of the source curve.)
-/

namespace C04

variable {P : Type} [VecLike P ℝ] [Inhabited P]

theorem between_out_of_range {c : Curve ℝ P} {l0 l1 : ℝ}
    (h : c.atLength l0 = none ∨ c.atLength l1 = none) : c.between l0 l1 = none := by
  unfold Curve.between Curve.betweenRaw
  rcases h with h | h
  · rw [h]
  · rw [h]; cases c.atLength l0 <;> rfl

/-- `betweenIllPosed` is the test of `between_lengths`, regenerated (`C04T.between_ill_posed_eq`) -/
theorem between_ill_posed {c : Curve ℝ P} {l0 l1 : ℝ} {s e : Station ℝ P} (h0 : c.atLength l0 = some s)
    (h1 : c.atLength l1 = some e) (h : c.betweenIllPosed l0 l1 (decide (c.lengthAlong e < c.lengthAlong s)) = true) :
    c.between l0 l1 = none := by
  unfold Curve.between Curve.betweenRaw
  simp only [h0, h1, h, if_true]

theorem between_shorter_than_tol {c : Curve ℝ P} {l0 l1 : ℝ} (h : |l1 - l0| < c.tol) :
    c.between l0 l1 = none := by
  cases h0 : c.atLength l0 with
  | none => exact between_out_of_range (Or.inl h0)
  | some s =>
    cases h1 : c.atLength l1 with
    | none => exact between_out_of_range (Or.inr h1)
    | some e => exact between_ill_posed h0 h1 (by simp [Curve.betweenIllPosed, sabs_eq, h])

theorem between_reversed_on_open {c : Curve ℝ P} {l0 l1 : ℝ} {s e : Station ℝ P}
    (hopen : c.closed = false) (h0 : c.atLength l0 = some s) (h1 : c.atLength l1 = some e)
    (hrev : c.lengthAlong e < c.lengthAlong s) : c.between l0 l1 = none :=
  between_ill_posed h0 h1 (by simp [Curve.betweenIllPosed, hopen, hrev])

/-- a piece is only ever produced for a request that is in range, at least `tol` long and (on an
    open curve) not reversed -/
theorem between_some_wellposed (c : Curve ℝ P) (l0 l1 : ℝ) (r : Curve ℝ P) (h : c.between l0 l1 = some r) :
    ∃ s e, c.atLength l0 = some s ∧ c.atLength l1 = some e ∧ c.tol ≤ |l1 - l0| ∧
      (c.closed = true ∨ c.lengthAlong s ≤ c.lengthAlong e) := by
  have hne : c.between l0 l1 ≠ none := h ▸ Option.some_ne_none r
  obtain ⟨s, h0⟩ := Option.ne_none_iff_exists'.mp fun h0 => hne (between_out_of_range (Or.inl h0))
  obtain ⟨e, h1⟩ := Option.ne_none_iff_exists'.mp fun h1 => hne (between_out_of_range (Or.inr h1))
  refine ⟨s, e, h0, h1, not_lt.mp fun hc => hne (between_shorter_than_tol hc), ?_⟩
  by_contra hc
  rw [not_or, Bool.not_eq_true, not_le] at hc
  exact hne (between_reversed_on_open hc.1 h0 h1 hc.2)

/-- what the walk returns from the state `(w, pts)`: `out = pts ++ w.point :: stored vertices`, fewer than `fuel` of them -/
def WalkPost (c : Curve ℝ P) (w : Station ℝ P) (pts : List P) (fuel : Nat) (out : List P) : Prop :=
  ∃ tl, out = pts ++ w.point :: tl ∧ (∀ p ∈ tl, ∃ i, p = c.vtx i) ∧ tl.length < fuel

omit [VecLike P ℝ] in
theorem WalkPost.stop (c : Curve ℝ P) (w : Station ℝ P) (pts : List P) (fuel : Nat) :
    WalkPost c w pts (fuel + 1) (pts ++ [w.point]) :=
  ⟨[], rfl, fun _ h => absurd h List.not_mem_nil, Nat.succ_pos _⟩

theorem WalkPost.step {c : Curve ℝ P} {w : Station ℝ P} {pts out : List P} {fuel j : Nat}
    (h : WalkPost c (c.atVertex j) (pts ++ [w.point]) fuel out) : WalkPost c w pts (fuel + 1) out := by
  obtain ⟨tl, e1, e2, e3⟩ := h
  refine ⟨(c.atVertex j).point :: tl, by rw [e1, List.append_assoc]; rfl, ?_, Nat.succ_lt_succ e3⟩
  intro p hp
  rcases List.mem_cons.mp hp with rfl | hp
  exacts [⟨j, c.atVertex_point j⟩, e2 p hp]

theorem betweenWalk_spec (c : Curve ℝ P) (e : Station ℝ P) (li fuel : Nat) (w : Station ℝ P) (wrap : Bool)
    (pts out : List P) (h : betweenWalk c e li fuel w wrap pts = some out) : WalkPost c w pts fuel out := by
  fun_induction betweenWalk c e li fuel w wrap pts
  case case1 => cases h  -- out of fuel
  -- the walk stops: past the last index without wrapping (2), or the end station is reached (4)
  case case2 | case4 => exact Option.some.inj h ▸ WalkPost.stop ..
  -- the walk goes on: from vertex 0 after wrapping (3), or from the next vertex (5)
  case case3 ih | case5 ih => exact (ih h).step

theorem betweenWalk_points (c : Curve ℝ P) (e : Station ℝ P) (li : Nat) :
    ∀ (fuel : Nat) (w : Station ℝ P) (wrap : Bool) (pts out : List P),
      betweenWalk c e li fuel w wrap pts = some out →
      ∃ tl, out = pts ++ w.point :: tl ∧ ∀ p ∈ tl, ∃ i, p = c.vtx i :=
  fun fuel w wrap pts out h =>
    let ⟨tl, e1, e2, _⟩ := betweenWalk_spec c e li fuel w wrap pts out h; ⟨tl, e1, e2⟩

/-- `betweenRaw` gives the walk the fuel `2·count + 2` (the Rust `loop` has no bound): a walk that returns, returns at
    most that many points.  That this fuel is never used up is not shown. -/
theorem betweenWalk_length (c : Curve ℝ P) (e : Station ℝ P) (li : Nat) :
    ∀ (fuel : Nat) (w : Station ℝ P) (wrap : Bool) (pts out : List P),
      betweenWalk c e li fuel w wrap pts = some out → out.length ≤ pts.length + fuel := by
  intro fuel w wrap pts out h
  obtain ⟨tl, rfl, _, e3⟩ := betweenWalk_spec c e li fuel w wrap pts out h
  rw [List.length_append, List.length_cons]; omega

theorem lengthAlong_same_edge (c : Curve ℝ P) (i : Nat) (f1 f2 : ℝ) (p1 p2 d1 d2 : P) :
    c.lengthAlong ⟨p2, d2, i, f2⟩ - c.lengthAlong ⟨p1, d1, i, f1⟩ = (f2 - f1) * (c.len (i + 1) - c.len i) := by
  unfold Curve.lengthAlong; ring

theorem lengthAlong_atVertex (c : Curve ℝ P) (i : Nat) (h1 : 1 ≤ i ∨ i + 1 ≠ c.count) :
    c.lengthAlong (c.atVertex i) = c.len i :=
  c.lengthAlong_atVertex i h1

theorem byControl_beyond_length (c : Curve ℝ P) (a b ctl : ℝ) (h : c.length < ctl) :
    c.betweenByControl a b ctl = none := by
  unfold Curve.betweenByControl; rw [if_pos h]

theorem byControl_inside (c : Curve ℝ P) (a b ctl : ℝ) (h0 : ctl ≤ c.length)
    (h1 : smin a b < ctl) (h2 : ctl < smax a b) :
    c.betweenByControl a b ctl = c.between (smin a b) (smax a b) := by
  unfold Curve.betweenByControl
  rw [if_neg (not_lt.mpr h0)]
  simp [h1, h2]

/-- The request with the ends swapped, which on a closed curve asks for the piece through the seam.  That an open
    curve yields nothing is `between_reversed_on_open`, whose hypothesis is on the `lengthAlong` of the two stations. -/
theorem byControl_outside (c : Curve ℝ P) (a b ctl : ℝ) (h0 : ctl ≤ c.length)
    (h : ctl < smin a b ∨ (smax a b < ctl ∧ c.closed = true)) :
    c.betweenByControl a b ctl = c.between (smax a b) (smin a b) := by
  unfold Curve.betweenByControl
  rw [if_neg (not_lt.mpr h0)]
  rcases h with h | ⟨h, hc⟩
  · simp [h, not_lt.mpr h.le]
  · simp [h, hc, not_lt.mpr h.le]

theorem byControl_open_above (c : Curve ℝ P) (a b ctl : ℝ) (h0 : ctl ≤ c.length)
    (hopen : c.closed = false) (h : smax a b < ctl) : c.betweenByControl a b ctl = none := by
  unfold Curve.betweenByControl
  rw [if_neg (not_lt.mpr h0)]
  simp [hopen, not_lt.mpr h.le, not_lt.mpr ((smin_le_smax a b).trans h.le)]

theorem vdist_comm3 (a b : V3 ℝ) : vdist a b = vdist b a := vdist_comm a b

/-- `C01.edgeSum` at `V2 ℝ`, written again -/
noncomputable def pathLen : List (V2 ℝ) → ℝ
  | [] => 0
  | [_] => 0
  | a :: b :: r => vdist b a + pathLen (b :: r)

theorem pathLen_append_single (l : List (V2 ℝ)) (a b : V2 ℝ) :
    pathLen (l ++ [a, b]) = pathLen (l ++ [a]) + vdist b a := by
  fun_induction pathLen l
  case case1 | case2 => simp [pathLen]
  case case3 c d l ih => simp only [List.cons_append] at ih ⊢; rw [pathLen, ih, pathLen, add_assoc]

/-- Nothing here ties `pathLen` to `Curve.length` or the reversed list to `Curve.reversed`. -/
theorem pathLen_reverse : ∀ (l : List (V2 ℝ)), pathLen l.reverse = pathLen l
  | [] => rfl
  | [_] => rfl
  | a :: b :: r => by
    rw [List.reverse_cons, List.reverse_cons, List.append_assoc, List.singleton_append, pathLen_append_single,
      ← List.reverse_cons, pathLen_reverse (b :: r), vdist_comm a b, pathLen, add_comm]

noncomputable instance : Inhabited (V2 ℝ) := ⟨⟨0, 0⟩⟩

/-! non-vacuity: an ill-posed request on a concrete curve -/
example : (⟨[⟨0, 0⟩, ⟨3, 4⟩], [0, 5], false, 1 / 1000, true⟩ : Curve ℝ (V2 ℝ)).between 1 1 = none :=
  between_shorter_than_tol (by show |(1:ℝ) - 1| < 1 / 1000; norm_num)

end C04
