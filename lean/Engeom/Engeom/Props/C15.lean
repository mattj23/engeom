import Engeom.Model.Search
import Engeom.Lemmas.RealScalar
import Engeom.Lemmas.CurveCore
import Engeom.Lemmas.Loops
import Mathlib.Data.List.MinMax
import Mathlib.Tactic.Ring
/-
  C15 — Spatial search, sampling and hulls agree with exhaustive computation.
  Proved: what engeom's own logic guarantees — the Poisson-disk sweep, the brute-force
  nearest scan, the index remap of a partial tree, the barycentric weights and the face pick of a sample.
  Partial: the k-d tree (kiddo) and the convex hull (parry) are external and are compared with the specification on
  every run (KNOWN_FINDINGS.txt: the k-d tree defect on point sets with shared coordinate values).
-/

namespace C15

section Sweep
-- in `samplePoissonDisk`: `l` the positions of the working list, `w a b := d2 (pt a) (pt b) < r * r`
variable {β : Type} (w : β → β → Bool)

theorem sweepAux_sublist (k : Nat) (l : List β) : (sweepAux w k l).Sublist l := by
  -- the three branches of `sweepAux`: out of fuel, empty list, head `a` kept and the rest `r` filtered
  fun_induction sweepAux w k l with
  | case1 => exact List.nil_sublist _
  | case2 => exact .slnil
  | case3 k a r ih => exact (ih.trans List.filter_sublist).cons_cons a

theorem sweep_subset (l : List β) : ∀ x ∈ sweep w l, x ∈ l := fun _ h => (sweepAux_sublist w _ l).subset h

theorem sweepAux_separated (k : Nat) (l : List β) : (sweepAux w k l).Pairwise (fun a b => w a b = false) := by
  fun_induction sweepAux w k l with
  | case1 => exact .nil
  | case2 => exact .nil
  | case3 k a r ih =>
    refine List.pairwise_cons.mpr ⟨fun b hb => ?_, ih⟩
    simpa using (List.mem_filter.mp ((sweepAux_sublist w k _).subset hb)).2

/-- with a symmetric "within radius" relation `w`, no two kept points are within the radius of each other -/
theorem sweep_separated (l : List β) : (sweep w l).Pairwise (fun a b => w a b = false) :=
  sweepAux_separated w _ l

theorem sweepAux_covering (k : Nat) (l : List β) (hk : l.length ≤ k) :
    ∀ x ∈ l, x ∈ sweepAux w k l ∨ ∃ a ∈ sweepAux w k l, w a x = true := by
  fun_induction sweepAux w k l with
  | case1 l => -- out of fuel: by `hk` the list is empty
    obtain rfl := List.eq_nil_of_length_eq_zero (Nat.le_zero.mp hk)
    exact fun x hx => absurd hx List.not_mem_nil
  | case2 => exact fun x hx => absurd hx List.not_mem_nil
  | case3 k a r ih =>
    intro x hx
    simp only [List.mem_cons, exists_eq_or_imp]
    rcases List.mem_cons.mp hx with rfl | hx
    · exact Or.inl (Or.inl rfl)
    · by_cases hc : w a x = true
      · exact Or.inr (Or.inl hc)
      · -- `x` survives the filter; the fuel covers the filtered list, which is no longer than `r`
        have hlen : (r.filter (fun b => !w a b)).length ≤ k :=
          (List.length_filter_le _ _).trans (Nat.le_of_succ_le_succ hk)
        rcases ih hlen x (List.mem_filter.mpr ⟨hx, by simpa using hc⟩) with h | ⟨c, hc1, hc2⟩
        · exact Or.inl (Or.inr h)
        · exact Or.inr (Or.inr ⟨c, hc1, hc2⟩)

/-- every working point is kept or within the radius of a kept one, for every visiting order (= order of `l`) -/
theorem sweep_covering (l : List β) : ∀ x ∈ l, x ∈ sweep w l ∨ ∃ a ∈ sweep w l, w a x = true :=
  sweepAux_covering w _ l (le_refl _)

end Sweep

theorem nearestOneAux_eq_foldl {F P : Type} [LinearOrder F] [VecLike P F] (q : P) :
    ∀ (l : List P) (i : Nat) (best : Option (Nat × F)), nearestOneAux q l i best =
      ((l.zipIdx i).map fun pj => (pj.2, d2 pj.1 q)).foldl (List.argAux fun c b => c.2 < b.2) best
  | [], _, _ => rfl
  | p :: l, i, best =>
    (show _ = nearestOneAux q l (i + 1) (List.argAux (fun c b => c.2 < b.2) best (i, d2 p q)) by cases best <;> rfl).trans
      (nearestOneAux_eq_foldl q l (i + 1) _)

section Nearest
variable {F : Type} [Field F] [LinearOrder F] [IsStrictOrderedRing F] {P : Type} [VecLike P F]

/-- the reported squared distance is at most the squared distance of every point -/
theorem nearestOne_minimal (q : P) : ∀ (l : List P) (i : Nat) (best : Option (Nat × F)) (r : Nat × F),
    nearestOneAux q l i best = some r → ∀ p ∈ l, r.2 ≤ d2 p q := by
  intro l i best r h p hp
  rw [nearestOneAux_eq_foldl] at h
  -- every point of the list is the first component of a numbered entry, whatever its number
  rw [← List.zipIdx_map_fst i l] at hp
  obtain ⟨pj, hpj, rfl⟩ := List.mem_map.mp hp
  -- a fold of `argAux` from `some b` is `List.argmin` of `b ::` the list
  cases best with
  | none => exact List.le_of_mem_argmin (f := Prod.snd) (List.mem_map_of_mem hpj) h
  | some b =>
    exact List.le_of_mem_argmin (f := Prod.snd) (l := b :: _) (List.mem_cons_of_mem _ (List.mem_map_of_mem hpj)) h

end Nearest

/-- the sub-tree is built from `all[indices[m]]`, so a hit at position `m` of the sub-tree is the
    point with ORIGINAL index `indices[m]` -/
theorem partial_remap_correct {P : Type} [Inhabited P] (allPts : List P) (indices : List Nat) (m : Nat)
    (hm : m < indices.length) :
    (indices.map (fun i => allPts.getD i default)).getD m default = allPts.getD (indices.getD m 0) default := by
  simp [List.getD, hm]

/-- the weights `sample_uniform` forms from its two draws (`baryWeights`) are barycentric, so the sample lies on the triangle -/
theorem bary_weights (r1 r2 : ℝ) (h1 : 0 ≤ r1 ∧ r1 ≤ 1) (h2 : 0 ≤ r2 ∧ r2 ≤ 1) :
    let wt := baryWeights r1 r2
    0 ≤ wt.1 ∧ 0 ≤ wt.2.1 ∧ 0 ≤ wt.2.2 ∧ wt.1 + wt.2.1 + wt.2.2 = 1 := by
  have hs0 : 0 ≤ Real.sqrt r1 := Real.sqrt_nonneg _
  have hs1 : Real.sqrt r1 ≤ 1 := Real.sqrt_le_one.mpr h1.2
  simp only [baryWeights, sqrtR]
  exact ⟨sub_nonneg.mpr hs1, mul_nonneg hs0 (sub_nonneg.mpr h2.2), mul_nonneg hs0 h2.1, by ring⟩

/-- The face picked for a draw `r` has `r` in its interval `(cum[i−1], cum[i]]` of the cumulative areas (this direction
    only).  Sortedness makes the intervals disjoint; the proof does not use it, it rests on `facePick cum r` unfolding to
    `countLt cum r`. -/
theorem facePick_interval (cum : List ℝ) (hs : cum.Pairwise (· < ·)) (r : ℝ) (i : Nat) (hi : i < cum.length)
    (h : facePick cum r = i) :
    (∀ j (hj : j < cum.length), j < i → cum[j] < r) ∧ r ≤ cum[i] := by
  subst h
  exact ⟨fun j _ hji => getElem_lt_of_lt_countLt hji, not_lt.mp (not_getElem_countLt_lt hi)⟩

/-! non-vacuity: points 0,1,2,3 on a line, radius 1.5 (on ℕ the covering relation is |a − b| ≤ 1) -/
example : sweep (fun (a b : Nat) => decide (a ≤ b + 1 ∧ b ≤ a + 1)) [0, 1, 2, 3] = [0, 2] := by decide

end C15
