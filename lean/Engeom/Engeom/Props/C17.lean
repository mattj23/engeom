import Engeom.Model.Series
import Engeom.Lemmas.Basics
import Mathlib.Tactic.Ring
import Mathlib.Tactic.NormNum
import Mathlib.Tactic.LinearCombination
import Mathlib.Data.List.Chain
import Mathlib.Algebra.Order.Field.Basic
import Mathlib.Data.Rat.Defs
/-
  C17 — Series and discrete domains stay sorted, finite and function-preserving.
  Finiteness: the theorems are over an ordered field, where every value is finite by construction; the NaN / ±∞
  rejection of the Rust constructors is covered by the correspondence run.  Partial: slicing (`between`), crossings
  and resampling have only the fragments of Props/C17U.
-/

namespace C17

variable {F : Type} [Field F] [LinearOrder F] [IsStrictOrderedRing F]

/-- what a `DiscreteDomain` keeps (`are_in_ascending_order`: ties allowed) -/
def Sorted (vs : List F) : Prop := vs.Pairwise (· ≤ ·)
/-- the hypothesis of `interp_knot` / `interp_blend`; `Series1::try_new` checks `SortedX` only -/
def StrictX (s : Ser F) : Prop := s.Pairwise (fun p q => p.1 < q.1)
/-- ties allowed: what shifting, scaling and dropping NaN keep -/
def SortedX (s : Ser F) : Prop := s.Pairwise (fun p q => p.1 ≤ q.1)

section Domain
omit [Field F] [IsStrictOrderedRing F]

/-- `are_in_ascending_order` compares neighbours -/
theorem ascending_iff (vs : List F) : ascending vs = true ↔ Sorted vs := by
  rw [Sorted, ← List.isChain_iff_pairwise]
  fun_induction ascending vs <;> simp [*]

/-- `try_from` accepts exactly the ascending vectors, and returns them unchanged. -/
theorem domTryFrom_iff (vs w : List F) : domTryFrom vs = some w ↔ (w = vs ∧ Sorted vs) := by
  rw [domTryFrom, ← ascending_iff]
  split_ifs with h <;> simp [h, eq_comm]

theorem sorted_concat {vs : List F} {v : F} (hs : Sorted vs) (h : ∀ l, vs.getLast? = some l → l ≤ v) :
    Sorted (vs ++ [v]) :=
  List.isChain_iff_pairwise.mp <| List.isChain_append.mpr
    ⟨List.isChain_iff_pairwise.mpr hs, List.isChain_singleton v, fun x hx _ hy => Option.mem_some_iff.mp hy ▸ h x hx⟩

/-- `push` either keeps the domain ascending (appending the value) or rejects. -/
theorem domPush_sorted (vs : List F) (v : F) (hs : Sorted vs) :
    (∀ w, domPush vs v = some w → w = vs ++ [v] ∧ Sorted w) ∧
    (domPush vs v = none → ∃ l, vs.getLast? = some l ∧ v < l) := by
  unfold domPush
  cases hl : vs.getLast? with
  | none =>
    obtain rfl := List.getLast?_eq_none_iff.mp hl
    exact ⟨fun w h => by cases h; exact ⟨rfl, List.pairwise_singleton _ _⟩, fun h => nomatch h⟩
  | some l =>
    dsimp only
    split_ifs with hlt
    · exact ⟨fun w h => (nomatch h), fun _ => ⟨l, rfl, hlt⟩⟩
    · refine ⟨fun w h => ?_, fun h => nomatch h⟩
      cases h
      exact ⟨rfl, sorted_concat hs fun x hx => by cases hl.symm.trans hx; exact not_lt.mp hlt⟩

end Domain

/-- the model's `ofNat` (the cast `i as f64`) is read as `Nat.cast`, here and in `domLinear_spec` -/
theorem linValues_sorted (start step : F) (hstep : 0 ≤ step) (n : Nat) :
    Sorted (linValues (fun i : Nat => (i : F)) start step n) := by
  unfold Sorted linValues
  rw [List.pairwise_map]
  exact List.pairwise_lt_range.imp fun hij =>
    add_le_add_right (mul_le_mul_of_nonneg_right (Nat.cast_le.mpr hij.le) hstep) _

theorem linValues_ends {R : Type} [Add R] [Mul R] (ofNat : Nat → R) (start step : R) (m : Nat) :
    (linValues ofNat start step (m + 1)).head? = some (start + ofNat 0 * step) ∧
    (linValues ofNat start step (m + 1)).getLast? = some (start + ofNat m * step) := by
  constructor
  · simp [linValues, List.range_succ_eq_map]
  · simp [linValues, List.range_succ]

/-- `linear` with the bounds in EITHER order: ascending, `n` values, from the smaller to the larger bound. -/
theorem domLinear_spec (a b : F) (n : Nat) (hn : 2 ≤ n) :
    Sorted (domLinear (fun i : Nat => (i : F)) a b n) ∧
    (domLinear (fun i : Nat => (i : F)) a b n).length = n ∧
    (domLinear (fun i : Nat => (i : F)) a b n).head? = some (min a b) ∧
    (domLinear (fun i : Nat => (i : F)) a b n).getLast? = some (max a b) := by
  obtain ⟨m, rfl⟩ : ∃ m, n = m + 1 := ⟨n - 1, by omega⟩
  have hm : (0 : F) < (m : F) := Nat.cast_pos.mpr (by omega)
  have hle : min a b ≤ max a b := min_le_max
  unfold domLinear
  simp only [smin_eq, smax_eq, Nat.add_sub_cancel]
  obtain ⟨h0, h1⟩ := linValues_ends (fun i : Nat => (i : F)) (min a b) ((max a b - min a b) / m) m
  refine ⟨linValues_sorted _ _ (div_nonneg (sub_nonneg.mpr hle) hm.le) _,
    by rw [linValues, List.length_map, List.length_range], ?_, ?_⟩
  · rw [h0, Nat.cast_zero, zero_mul, add_zero]
  · rw [h1, mul_div_cancel₀ _ hm.ne', add_sub_cancel]

/-- Regression witness for D6 (fixed in /repo): the shadowed `start` made reversed bounds collapse onto the smaller one. -/
theorem domLinear_prefix_collapses :
    domLinear_prefix (fun i : Nat => (i : ℚ)) 1 0 3 = [0, 0, 0] := by
  norm_num [domLinear_prefix, linValues, smin, smax, List.range_succ]

example : domLinear (fun i : Nat => (i : ℚ)) 1 0 3 = [0, 1/2, 1] := by
  norm_num [domLinear, linValues, smin, smax, List.range_succ]

theorem serShiftBy_sorted (s : Ser F) (dx dy : F) (hs : SortedX s) :
    SortedX (serShiftBy s dx dy) ∧ (serShiftBy s dx dy).length = s.length :=
  ⟨List.pairwise_map.mpr (hs.imp fun h => add_le_add_left h dx), List.length_map _⟩

/-- ANY factor: for a negative one `scaled_by` reverses the samples -/
theorem serScaledBy_sorted (s : Ser F) (sx sy : F) (hs : SortedX s) :
    SortedX (serScaledBy s sx sy) ∧ (serScaledBy s sx sy).length = s.length := by
  unfold serScaledBy
  split_ifs with hneg
  · exact ⟨List.pairwise_reverse.mpr (List.pairwise_map.mpr (hs.imp fun h => mul_le_mul_of_nonpos_right h hneg.le)),
      by rw [List.length_reverse, List.length_map]⟩
  · exact ⟨List.pairwise_map.mpr (hs.imp fun h => mul_le_mul_of_nonneg_right h (not_lt.mp hneg)), List.length_map _⟩

omit [Field F] [IsStrictOrderedRing F] in
theorem serRemoveNan_sorted (s : List (F × Option F)) (hs : s.Pairwise (fun p q => p.1 ≤ q.1)) :
    SortedX (serRemoveNan s) := by
  unfold serRemoveNan SortedX
  rw [List.pairwise_filterMap]
  refine hs.imp fun {p q} h a ha b hb => ?_
  obtain ⟨_, _, rfl⟩ := Option.map_eq_some_iff.mp ha
  obtain ⟨_, _, rfl⟩ := Option.map_eq_some_iff.mp hb
  exact h

section Interp
omit [IsStrictOrderedRing F]

theorem interpAux_head {a ya x : F} {r : Ser F} (h : ¬ a < x) : interpAux ((a, ya) :: r) x = some ya := by
  cases r <;> simp [interpAux, h]

/-- where the three cases knot / blend / beyond the end all start; needs no sortedness -/
theorem interpAux_skip (pre : Ser F) (a ya x : F) (post : Ser F) (hpre : ∀ p ∈ pre, p.1 < x) (ha : a ≤ x) :
    interpAux (pre ++ (a, ya) :: post) x = interpAux ((a, ya) :: post) x := by
  induction pre with
  | nil => rfl
  | cons c pre ih =>
    obtain ⟨hc, hpre⟩ := List.forall_mem_cons.mp hpre
    rw [← ih hpre]
    cases pre with
    | nil => simp [interpAux, hc, not_lt.mpr ha]
    | cons d pre => simp [interpAux, hc, not_lt.mpr (hpre d List.mem_cons_self).le]

theorem interp_skip (pre : Ser F) (a ya x : F) (post : Ser F) (hpre : ∀ p ∈ pre, p.1 < x) (ha : a ≤ x) :
    interp (pre ++ (a, ya) :: post) x = interpAux ((a, ya) :: post) x := by
  rw [← interpAux_skip pre a ya x post hpre ha]
  cases pre with
  | nil => simp [interp, not_lt.mpr ha]
  | cons c pre => simp [interp, not_lt.mpr (hpre c (by simp)).le]

/-- Interpolation returns the stored value at every knot. -/
theorem interp_knot (s : Ser F) (hs : StrictX s) (a y : F) (h : (a, y) ∈ s) : interp s a = some y := by
  obtain ⟨pre, post, rfl⟩ := List.append_of_mem h
  rw [interp_skip pre a y a post (fun p hp => (List.pairwise_append.mp hs).2.2 p hp (a, y) List.mem_cons_self) le_rfl,
    interpAux_head (lt_irrefl a)]

/-- Between two consecutive knots interpolation is the linear blend of their ordinates. -/
theorem interp_blend (pre : Ser F) (a ya b yb : F) (post : Ser F)
    (hs : StrictX (pre ++ (a, ya) :: (b, yb) :: post)) (x : F) (h1 : a < x) (h2 : x < b) :
    interp (pre ++ (a, ya) :: (b, yb) :: post) x = some (ya + (yb - ya) / (b - a) * (x - a)) := by
  rw [interp_skip pre a ya x _
    (fun p hp => ((List.pairwise_append.mp hs).2.2 p hp (a, ya) List.mem_cons_self).trans h1) h1.le]
  simp [interpAux, h1, h2]

/-- `none` is the NaN of the Rust code: no extrapolation -/
theorem interp_outside (s : Ser F) (hs : StrictX s) (x : F)
    (h : (∀ p ∈ s, x < p.1) ∨ (∀ p ∈ s, p.1 < x)) : interp s x = none := by
  cases s with
  | nil => rfl
  | cons p r =>
    rcases h with h | h
    · simp [interp, h p (by simp)]
    · -- beyond the last knot: the scan passes all the others and stops there
      obtain ⟨pre, ⟨b, yb⟩, e⟩ := List.eq_nil_or_concat' (p :: r) |>.resolve_left (by simp)
      rw [e] at h ⊢
      rw [interp_skip pre b yb x [] (fun q hq => h q (by simp [hq])) (h (b, yb) (by simp)).le]
      simp [interpAux, h (b, yb) (by simp)]

end Interp

/-- `area_under` is additive at a knot -/
theorem serArea_append_knot : ∀ (l : Ser F) (k : F × F) (r : Ser F),
    serArea (l ++ k :: r) = serArea (l ++ [k]) + serArea (k :: r)
  | [], _, _ => (zero_add _).symm
  | [(_, _)], (_, _), _ => (congrArg (· + _) (add_zero _)).symm
  | (_, _) :: (b, yb) :: l, k, r =>
    -- the first trapezoid stays in front of both sides
    (congrArg (_ + ·) (serArea_append_knot ((b, yb) :: l) k r)).trans (add_assoc _ _ _).symm

/-- inserting a point that lies on a segment does not change the area under the graph -/
theorem serArea_insert_on_graph (a ya b yb x : F) (hab : a < b) (r : Ser F) :
    serArea ((a, ya) :: (x, ya + (yb - ya) / (b - a) * (x - a)) :: (b, yb) :: r) =
    serArea ((a, ya) :: (b, yb) :: r) := by
  -- the two trapezoids exceed the one by `(x − a)/2 · (slope · (b − a) − (yb − ya))`
  simp only [serArea]
  linear_combination (x - a) / 2 * div_mul_cancel₀ (yb - ya) (sub_ne_zero.mpr hab.ne')

/-! non-vacuity -/
example : StrictX ([(0, 1), (2, 5), (3, 4)] : Ser ℚ) := by
  norm_num [StrictX]
example : interp ([(0, 1), (2, 5), (3, 4)] : Ser ℚ) 1 = some 3 := by
  have := interp_blend ([] : Ser ℚ) 0 1 2 5 [(3, 4)] (by norm_num [StrictX]) 1 (by norm_num) (by norm_num)
  simpa using this.trans (by norm_num)

end C17
