import Engeom.Props.C13S
import Engeom.Props.C13T
/-
  C13 — "every section point lies on the plane" stated about the REGENERATED pieces of
  `Mesh::plane_crossing_segments` (src/geom3/mesh/queries.rs, over ℝ); then fragments proved on their regenerated
  definitions: the pair arm of `Mesh::split`, the direction given to a crossing segment (face normal, `along`, swap
  test), the early-out of the face loop.
-/
namespace C13U

theorem section_edge_point_on_plane (P : Plane3 ℝ) (eps : ℝ) (verts : List (V3 ℝ)) (i j : Nat)
    (hi : (GenRs.section_dist verts P eps).getD i 0 ≠ 0) (hj : (GenRs.section_dist verts P eps).getD j 0 ≠ 0)
    (hs : (GenRs.section_dist verts P eps).getD i 0 ≠ (GenRs.section_dist verts P eps).getD j 0) :
    P.signedDistance (GenRs.section_edge_point (verts.getD i ⟨0, 0, 0⟩) (verts.getD j ⟨0, 0, 0⟩)
      ((GenRs.section_dist verts P eps).getD i 0) ((GenRs.section_dist verts P eps).getD j 0)) = 0 := by
  rw [C13T.section_dist_eq] at hi hj hs ⊢
  rw [← C13T.section_edge_point_eq]
  exact C13.keyPoint_edge_on_plane hi hj hs

/-- the parameter of `section_edge_point`.  About the two numbers: that the code calls it only for such ends is not
    stated. -/
theorem section_edge_point_inside (di dj : ℝ) (h : (di < 0 ∧ 0 < dj) ∨ (0 < di ∧ dj < 0)) :
    0 < di / (di - dj) ∧ di / (di - dj) < 1 := C13.crossParam_inside (h.imp id And.symm)

theorem section_snapped_vertex_near_plane (P : Plane3 ℝ) (eps : ℝ) (he : 0 ≤ eps) (verts : List (V3 ℝ)) (i : Nat)
    (hi : i < verts.length) (hz : (GenRs.section_dist verts P eps).getD i 0 = 0) :
    |P.signedDistance (verts.getD i ⟨0, 0, 0⟩)| ≤ eps := by
  rw [C13T.section_dist_eq] at hz
  exact C13.keyPoint_vertex_near_plane he hi hz

/-- `Mesh::split`, the arm that returns two halves (here tags): the half the external split put first (the negative
    side) comes back first.  That nothing is done to a half in between is the translator's whole-arm pattern, not this
    statement. -/
theorem split_returns_the_halves_as_they_are (neg pos : Nat) : GenRs.split_pair_order neg pos = (neg, pos) := rfl

/-- The direction does not depend on the SIZE of the face.  Scaling a face about its first vertex by any `k > 0`
    leaves the swap decision of every segment unchanged — there is no length below which a face has "no direction". -/
theorem section_direction_scale_invariant (n p0 p1 p2 seg : V3 ℝ) (k : ℝ) (hk : 0 < k) :
    let q1 := V3.add p0 (V3.smul k (V3.sub p1 p0))
    let q2 := V3.add p0 (V3.smul k (V3.sub p2 p0))
    GenRs.section_swap_test seg (GenRs.section_along n (GenRs.section_face_normal p0 q1 q2)) =
      GenRs.section_swap_test seg (GenRs.section_along n (GenRs.section_face_normal p0 p1 p2)) := by
  intro q1 q2
  have hsign : ∀ x : ℝ, k * k * x < 0 ↔ x < 0 := fun x => by
    simpa using mul_lt_mul_iff_right₀ (b := x) (c := 0) (mul_pos hk hk)
  unfold GenRs.section_swap_test
  rw [decide_eq_decide]
  -- both edge vectors are multiplied by `k`, hence the face normal and `along` by `k²`
  simp only [GenRs.section_along, GenRs.section_face_normal, q1, q2, V3.add_sub_cancel_left, V3.cross_smul_left, V3.cross_smul_right,
    V3.smul_smul, V3.dot_smul_right, hsign]

theorem section_along_in_plane (n f : V3 ℝ) : V3.dot n (GenRs.section_along n f) = 0 :=
  V3.dot_cross_self_left ..

/-- `zeros`, `above`, `below` count the vertices of the face on / above / below the plane.  This first test passes a face
    that STRADDLES the plane or has exactly one EDGE in it (for the latter the model's `sectionFace` has a second test). -/
theorem face_skipped_iff (zeros above below : Nat) (h : zeros + above + below = 3) :
    GenRs.face_skipped zeros above below = true ↔ ¬ ((1 ≤ above ∧ 1 ≤ below) ∨ zeros = 2) := by
  unfold GenRs.face_skipped
  simp only [Bool.or_eq_true, Bool.and_eq_true, decide_eq_true_eq]
  omega

theorem straddling_face_not_skipped (zeros above below : Nat) (h : zeros + above + below = 3)
    (ha : 1 ≤ above) (hb : 1 ≤ below) : GenRs.face_skipped zeros above below = false := by
  have := (face_skipped_iff zeros above below h).not.mpr (by simp [ha, hb])
  simpa using this

example : GenRs.face_skipped 2 0 1 = false ∧ GenRs.face_skipped 1 1 1 = false ∧ GenRs.face_skipped 3 0 0 = true := by decide

end C13U
