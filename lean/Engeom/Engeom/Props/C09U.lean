import Engeom.Props.C09
import Engeom.Props.C09T
import Engeom.Lemmas.RealScalar
/-
  C09 — the REGENERATED `Series1::best_fit_line` (over ℝ): the slope and intercept it returns solve the two normal
  equations of the degree-one least-squares problem whenever the abscissae are not all equal (`n Σx² ≠ (Σx)²`).  The
  equations are stated on the list sums the code forms (`sumL`); that their solution minimises the sum of squares is
  `C09.normal_eq_optimal`, proved for `Finset` sums over `Fin n` and not connected to `sumL` by any theorem here.
  Then two regenerated pieces of `CircleFit`.
-/
namespace C09U

noncomputable def sumL (l : List ℝ) : ℝ := l.foldl (· + ·) 0

theorem best_fit_line_solves_normal_equations (s : SeriesXY ℝ)
    (hn : (s.x.length : ℝ) ≠ 0)
    (hd : (s.x.length : ℝ) * sumL (s.x.map fun x => x * x) - sumL s.x * sumL s.x ≠ 0) :
    let mb := GenRs.best_fit_line s
    (s.x.length : ℝ) * mb.2 + sumL s.x * mb.1 = sumL s.y ∧
    sumL s.x * mb.2 + sumL (s.x.map fun x => x * x) * mb.1 = sumL (List.zipWith (· * ·) s.x s.y) := by
  intro mb
  rw [show mb = _ from C09T.best_fit_line_eq s]
  unfold bestFitLine
  simp only [show C09T.ofNatS s.x.length = (s.x.length : ℝ) from ofRatR_nat _]
  exact C09.closedForm_solves_normal_equations hn hd

/-- The mode `set_params` passes to the reweighting is the fit's own.  That it reweights after EVERY parameter update is
    what the translator's pattern enforces (the whole body of `set_params`: no match with the call removed or moved). -/
theorem weights_recomputed_with_the_fit_mode (mode : Nat) : GenRs.fit_reweight_mode mode = mode := rfl

/-- `r` is the radial residual of a sample, the second argument its weight -/
theorem weighted_residual (r : ℝ) : GenRs.fit_weighted_residual r 1 = r ∧ GenRs.fit_weighted_residual r 0 = 0 := by
  unfold GenRs.fit_weighted_residual
  constructor <;> ring

end C09U
