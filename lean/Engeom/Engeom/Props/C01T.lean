import Engeom.Generated.RsC01
import Engeom.Lemmas.CurveCore
/-
  C01 — translation tie.  The functions of curve2.rs and curve3.rs that tools/rs2lean.py regenerates are equal to the
  model functions Props/C01 is about, for every scalar type (so also at Float, where the correspondence run executes
  the model); only `from_points_lengths2_eq` needs a law (`+` commutes).  `at_vertex` and `dir_of_edge` come from
  curve2.rs alone: in 3-D the regenerated code calls the model's.  `at_vertex` and `at_length` are regenerated both in
  fragments and whole.
-/
namespace C01T
set_option linter.unusedSectionVars false
variable {α : Type} [Add α] [Sub α] [Mul α] [Div α] [Neg α] [LT α] [LE α]
  [DecidableLT α] [DecidableLE α] [OfNat α 0] [OfNat α 1] [OfNat α 2] [Scalar α] [Inhabited α] [Inhabited (V2 α)] [Inhabited (V3 α)]

theorem length_along2_eq (c : Curve α (V2 α)) (s : Station α (V2 α)) :
    GenRs.length_along2 c.lengths s = c.lengthAlong s := rfl

theorem length_along3_eq (c : Curve α (V3 α)) (s : Station α (V3 α)) :
    GenRs.length_along3 c.lengths s = c.lengthAlong s := rfl

/-- the Rust tests `index == len - 1`, the model `index + 1 == len` -/
theorem last_iff {P : Type} (c : Curve α P) {i : Nat} (hn : 0 < c.count) : i = c.verts.length - 1 ↔ i + 1 = c.count :=
  ⟨fun h => h ▸ Nat.sub_add_cancel hn, Nat.eq_sub_of_add_eq⟩

theorem at_vertex_rule_eq (c : Curve α (V2 α)) (i : Nat) (h : 0 < c.count) :
    ((c.atVertex i).index, (c.atVertex i).fraction) = GenRs.at_vertex_if2 c.verts i := by
  unfold GenRs.at_vertex_if2
  by_cases hi : i + 1 = c.count
  · rw [Curve.atVertex_of_last hi, if_pos ((last_iff c h).mpr hi)]
  · rw [Curve.atVertex_of_not_last hi, if_neg (mt (last_iff c h).mp hi)]

theorem at_length2_eq (c : Curve α (V2 α)) (l : α) :
    c.atLength l =
      if GenRs.at_length_guard2 c l then none else
      let k := countLt c.lengths l
      if k < c.lengths.length && !decide (l < c.len k) then some (c.atVertex k)
      else GenRs.at_length_edge2 c l k := rfl

theorem at_length3_eq (c : Curve α (V3 α)) (l : α) :
    c.atLength l =
      if GenRs.at_length_guard3 c l then none else
      let k := countLt c.lengths l
      if k < c.lengths.length && !decide (l < c.len k) then some (c.atVertex k)
      else GenRs.at_length_edge3 c l k := rfl

theorem dir_of_edge2_eq (c : Curve α (V2 α)) (i : Nat) : GenRs.dir_of_edge2 c i = c.dirOfEdge i := rfl

/-- `Curve2::dir_of_vertex` blends the two adjacent edge directions (`blend = true`) -/
theorem dir_of_vertex2_eq (c : Curve α (V2 α)) (i : Nat) (hb : c.blend = true) (hn : 0 < c.count) :
    GenRs.dir_of_vertex2 c i = c.dirOfVertex i := by
  unfold GenRs.dir_of_vertex2 Curve.dirOfVertex
  have hlast : decide (i = c.verts.length - 1) = (i + 1 == c.count) := decide_eq_decide.mpr (last_iff c hn)
  simp only [dir_of_edge2_eq, hb, if_true, hlast]
  -- left: `decide (i = 0)` against `i == 0`, `c.verts.length` against `c.count`, `V2.add` against `VecLike.add`
  rfl

theorem at_vertex2_eq (c : Curve α (V2 α)) (i : Nat) (hb : c.blend = true) (hn : 0 < c.count) :
    GenRs.at_vertex2 c i = c.atVertex i := by
  -- the regenerated body is `at_vertex_if2` written in place, around the vertex and its direction
  show (⟨c.vtx i, GenRs.dir_of_vertex2 c i, (GenRs.at_vertex_if2 c.verts i).1, (GenRs.at_vertex_if2 c.verts i).2⟩ :
    Station α (V2 α)) = _
  rw [← at_vertex_rule_eq c i hn, dir_of_vertex2_eq c i hb hn]
  unfold Curve.atVertex
  split <;> rfl

/-- `Curve3::dir_of_vertex` uses the next edge, at the last vertex the previous one (`blend = false`) -/
theorem dir_of_vertex3_eq (c : Curve α (V3 α)) (i : Nat) (hb : c.blend = false) (hn : 0 < c.count) :
    GenRs.dir_of_vertex3 c i = c.dirOfVertex i := by
  unfold GenRs.dir_of_vertex3 Curve.dirOfVertex
  simp only [hb, Bool.false_eq_true, if_false]
  by_cases h : i + 1 = c.count
  · rw [if_pos ((last_iff c hn).mpr h), if_pos (beq_iff_eq.mpr h)]
  · rw [if_neg (mt (last_iff c hn).mp h), if_neg (mt beq_iff_eq.mp h)]

/-! The whole functions: the binary search is the model's `binarySearch`, its contract. -/

theorem at_length3_whole (c : Curve α (V3 α)) (l : α) : GenRs.at_length3 c l = c.atLength l :=
  (c.atLength_eq_search l).symm

theorem at_fraction3_whole (c : Curve α (V3 α)) (f : α) : GenRs.at_fraction3 c f = c.atFraction f := by
  unfold GenRs.at_fraction3 Curve.atFraction
  exact at_length3_whole c _

/-- `hb`, `hn`: the exact-vertex arm goes through the regenerated `at_vertex` -/
theorem at_length2_whole (c : Curve α (V2 α)) (l : α) (hb : c.blend = true) (hn : 0 < c.count) :
    GenRs.at_length2 c l = c.atLength l := by
  rw [c.atLength_eq_search l, GenRs.at_length2]
  simp only [at_vertex2_eq c _ hb hn]
  rfl

theorem at_fraction2_whole (c : Curve α (V2 α)) (f : α) (hb : c.blend = true) (hn : 0 < c.count) :
    GenRs.at_fraction2 c f = c.atFraction f := by
  unfold GenRs.at_fraction2 Curve.atFraction
  exact at_length2_whole c _ hb hn

/-- `dedup_by(|a, b| dist(a, b) <= tol)` of `from_points`.  For a source line of this shape the translator itself
    emits the model's `dedupTolPts`: the statements record that the pattern matches, and the argument order. -/
theorem from_points_dedup2_eq (pts : List (V2 α)) (tol : α) : GenRs.from_points_dedup2 pts tol = dedupTolPts tol pts := rfl
theorem from_points_dedup3_eq (pts : List (V3 α)) (tol : α) : GenRs.from_points_dedup3 pts tol = dedupTolPts tol pts := rfl

/-- `g lengths i d` adds the edge length `d` to the last entry (which is entry `i`), in either of the two ways the
    Rust writes it; `Lpre ++ [acc]` is the table built so far, `pt` reads the vertices by index -/
theorem lengths_loop {P : Type} [VecLike P α] (g : List α → Nat → α → α)
    (hg : ∀ (L : List α) (a d : α), g (L ++ [a]) L.length d = a + d) (pt : Nat → P)
    (n s : Nat) (Lpre : List α) (acc : α) (hlen : Lpre.length = s) :
    List.foldl (fun lengths i => lengths ++ [g lengths i (vdist (pt (i + 1)) (pt i))]) (Lpre ++ [acc])
        (List.range' s n)
      = Lpre ++ cumLengths.go acc (pt s) ((List.range' (s + 1) n).map pt) := by
  induction n generalizing s Lpre acc with
  | zero => rfl
  | succ n ih =>
    rw [List.range'_succ, List.foldl_cons, ← hlen, hg, hlen,
      ih (s + 1) (Lpre ++ [acc]) _ (by rw [List.length_append, hlen]; rfl),
      List.range'_succ, List.map_cons, cumLengths.go, List.append_assoc]
    rfl

theorem map_getD_tail_range {β : Type} (a d : β) (r : List β) :
    (List.range' 1 r.length).map (fun i => (a :: r).getD i d) = r := by
  refine List.ext_getElem (by simp) fun i h1 h2 => ?_
  simp [Nat.add_comm 1 i, h2]

/-- `lengths.push(lengths[i] + d)` -/
theorem from_points_lengths3_eq (v : List (V3 α)) (hne : v ≠ []) :
    GenRs.from_points_lengths3 v = cumLengths v := by
  obtain ⟨a, r, rfl⟩ := List.exists_cons_of_ne_nil hne
  rw [GenRs.from_points_lengths3, List.range_eq_range']
  exact (lengths_loop (fun L i d => L.getD i default + d) (fun L a d => by simp)
    (fun i => (a :: r).getD i default) r.length 0 [] (0 : α) rfl).trans (by rw [map_getD_tail_range]; rfl)

/-- `lengths.push(d + lengths.last().unwrap_or(&0.0))`: the same list when addition commutes (it does over ℝ, and
    bit for bit at Float) -/
theorem from_points_lengths2_eq (hc : ∀ a b : α, a + b = b + a) (v : List (V2 α)) (hne : v ≠ []) :
    GenRs.from_points_lengths2 v = cumLengths v := by
  obtain ⟨a, r, rfl⟩ := List.exists_cons_of_ne_nil hne
  rw [GenRs.from_points_lengths2, List.range_eq_range']
  exact (lengths_loop (fun L _ d => d + L.getLast?.getD 0) (fun L a d => by simp [hc])
    (fun i => (a :: r).getD i default) r.length 0 [] (0 : α) rfl).trans (by rw [map_getD_tail_range]; rfl)
end C01T
