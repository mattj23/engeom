import Engeom.Generated.RsC19
import Engeom.Generated.Consts
/-
  C19 — translation tie for the plane functions of src/geom3/plane3.rs and for the counting loop of `SvdBasis::rank`
  (src/common/svd_basis.rs), regenerated on every run.  `UnitVec3::new_normalize` is mapped to the model's `normalize3`.
-/
namespace C19T
set_option linter.unusedSectionVars false
variable {α : Type} [Add α] [Sub α] [Mul α] [Div α] [Neg α] [LT α] [LE α]
  [DecidableLT α] [DecidableLE α] [OfNat α 0] [OfNat α 1] [OfNat α 2] [Scalar α]

theorem Plane3_inverted_normal_eq (P : Plane3 α) : GenRs.Plane3_inverted_normal P = P.invertedNormal := rfl
theorem Plane3_signed_distance_eq (P : Plane3 α) (q : V3 α) :
    GenRs.Plane3_signed_distance_to_point P q = P.signedDistance q := rfl
theorem Plane3_distance_eq (P : Plane3 α) (q : V3 α) :
    GenRs.Plane3_distance_to_point P q = sabs (P.signedDistance q) := rfl
theorem Plane3_project_point_eq (P : Plane3 α) (q : V3 α) : GenRs.Plane3_project_point P q = P.project q := rfl
theorem Plane3_intersection_distance_eq (P : Plane3 α) (sp : SP3 α) :
    GenRs.Plane3_intersection_distance P sp
      = Plane3.intersectionDistance (Scalar.ofRat Gen.PLANE_ISECT_TOL_num Gen.PLANE_ISECT_TOL_den) P sp := rfl
theorem Plane3_from_normal_point_eq (n p : V3 α) : GenRs.Plane3_from_normal_point n p = Plane3.ofNormalPoint n p := rfl
theorem Plane3_from_three_points_eq (p1 p2 p3 : V3 α) :
    GenRs.Plane3_from_three_points p1 p2 p3 = Plane3.ofThreePoints p1 p2 p3 := rfl
theorem Plane3_from_surface_point_eq (sp : SP3 α) :
    GenRs.Plane3_from_surface_point sp = Plane3.ofNormalPoint sp.normal sp.point := rfl

theorem svd_rank_eq (S : SvdBasis3M α) (tol : α) : GenRs.svd_rank [S.s0, S.s1, S.s2] tol = S.rank tol := by
  unfold GenRs.svd_rank SvdBasis3M.rank
  simp only [List.foldl]
  by_cases h0 : tol < S.s0 <;> by_cases h1 : tol < S.s1 <;> by_cases h2 : tol < S.s2 <;> simp [h0, h1, h2]
end C19T
