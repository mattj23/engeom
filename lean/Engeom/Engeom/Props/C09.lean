import Engeom.Model.Fit
import Mathlib.Algebra.BigOperators.Group.Finset.Basic
import Mathlib.Algebra.BigOperators.Ring.Finset
import Mathlib.Algebra.BigOperators.Fin
import Mathlib.Algebra.Order.BigOperators.Ring.Finset
import Mathlib.Tactic.Ring
import Mathlib.Tactic.LinearCombination
import Mathlib.Algebra.Order.Ring.Rat
/-
  C09 — Least-squares fits are optimal.  The power sums the code accumulates are complete (an obligation on the loop
  bound REGENERATED from src/func1/polynomial.rs).  For data indexed by `Fin n` over any ordered field, a solution of
  the normal equations minimises the weighted sum of squares and exact data solve them (`Finset` sums: no theorem
  identifies them with the model's list sums `powerSums`, `rhsSum`).  Partial: convergence of the Levenberg–Marquardt
  circle fit and the RANSAC draw are validated per result by the correspondence run, not proved.
-/

namespace C09

variable {F : Type} [Field F] [LinearOrder F] [IsStrictOrderedRing F]

/-- Every power sum the Hankel matrix reads (`r + c ≤ 2K − 2`) is accumulated.  `_hk` only records which sums are
    read. -/
theorem powerSums_complete (K : Nat) (xs ws : List F) (k : Nat) (_hk : k ≤ 2 * K - 2) :
    powerSums K xs ws k = (List.zipWith (fun x w => w * spow x k) xs ws).foldl (· + ·) 0 := by
  -- the regenerated offset is 0: the index ranges `k < K` and `K + 0 ≤ k` of the two loops leave no gap
  have h : k < K ∨ K + Gen.polySkipOffset ≤ k := Nat.lt_or_ge k K
  exact if_pos (by simpa using h)

/-- Regression witness for the defect fixed in /repo (D11): with the pre-fix bound `skip(K + 1)`
    the sum of order `K` stays 0 — for a line fit (`K = 2`) on `x = 1, 2` the entry `Σ x² = 5` of
    the normal matrix was read as 0. -/
theorem sums_missing_K_prefix :
    powerSumsAcc 2 1 ([1, 2] : List ℚ) [1, 1] 2 = 0 ∧ powerSumsAcc 2 0 ([1, 2] : List ℚ) [1, 1] 2 = 5 := by
  constructor <;> norm_num [powerSumsAcc, spow]

section Normal
variable {n K : Nat} (x y w : Fin n → F)

/-! Over `Fin`: `pval` is `polyEval` of Model/Fit, `NormalEq` is `normalResidual … r = 0` for every row `r`, `ssq` the
    weighted sum of squares (not in the model). -/

def pval (c : Fin K → F) (t : F) : F := ∑ j : Fin K, c j * t ^ (j : Nat)

def ssq (c : Fin K → F) : F := ∑ i : Fin n, w i * (pval c (x i) - y i) ^ 2

def NormalEq (c : Fin K → F) : Prop :=
  ∀ r : Fin K, ∑ j : Fin K, (∑ i : Fin n, w i * x i ^ ((r : Nat) + (j : Nat))) * c j = ∑ i : Fin n, w i * x i ^ (r : Nat) * y i

/-- binders of its own: `omit … in` on the section's costs more to check than this lemma -/
theorem normal_lhs {R : Type} [Field R] {n K : Nat} (x w : Fin n → R) (c : Fin K → R) (r : Fin K) :
    ∑ j : Fin K, (∑ i : Fin n, w i * x i ^ ((r : Nat) + (j : Nat))) * c j =
      ∑ i : Fin n, w i * x i ^ (r : Nat) * pval c (x i) := by
  simp only [pval, Finset.mul_sum, Finset.sum_mul]
  rw [Finset.sum_comm]
  exact Finset.sum_congr rfl fun i _ => Finset.sum_congr rfl fun j _ => by rw [pow_add]; ring

/-- A solution of the normal equations leaves a residual orthogonal, in the weighted inner
    product, to every monomial column. -/
theorem normal_eq_orthogonal (c : Fin K → F) (h : NormalEq x y w c) (r : Fin K) :
    ∑ i : Fin n, w i * x i ^ (r : Nat) * (pval c (x i) - y i) = 0 := by
  simp only [mul_sub, Finset.sum_sub_distrib]
  rw [← normal_lhs, h r, sub_self]

/-- Pythagoras; the cross term is a combination of the orthogonality relations. -/
theorem ssq_eq_add (c c' : Fin K → F) (h : NormalEq x y w c) :
    ssq x y w c' = ssq x y w c + ∑ i : Fin n, w i * (pval c' (x i) - pval c (x i)) ^ 2 := by
  have hd : ∀ t, pval c' t - pval c t = ∑ j : Fin K, (c' j - c j) * t ^ (j : Nat) := fun t => by
    simp only [pval, ← Finset.sum_sub_distrib, sub_mul]
  have hcross : ∑ i : Fin n, w i * (pval c (x i) - y i) * (pval c' (x i) - pval c (x i)) = 0 := by
    simp only [hd, Finset.mul_sum]
    rw [Finset.sum_comm]
    refine Finset.sum_eq_zero fun j _ => ?_
    rw [← mul_zero (c' j - c j), ← normal_eq_orthogonal x y w c h j, Finset.mul_sum]
    exact Finset.sum_congr rfl fun i _ => by ring
  rw [← add_zero (ssq x y w c), ← mul_zero 2, ← hcross]
  simp only [ssq, Finset.mul_sum, ← Finset.sum_add_distrib]
  exact Finset.sum_congr rfl fun i _ => by ring

/-- With non-negative weights, no coefficient vector has a smaller weighted sum of squares than a solution of the
    normal equations. -/
theorem normal_eq_optimal (hw : ∀ i, 0 ≤ w i) (c c' : Fin K → F) (h : NormalEq x y w c) :
    ssq x y w c ≤ ssq x y w c' := by
  rw [ssq_eq_add x y w c c' h]
  exact le_add_of_nonneg_right (Finset.sum_nonneg fun i _ => mul_nonneg (hw i) (sq_nonneg _))

/-- Hence the fit of exact samples returns their polynomial when the normal matrix is invertible (not stated). -/
theorem exact_data_solves (c : Fin K → F) (hy : ∀ i, y i = pval c (x i)) : NormalEq x y w c := by
  intro r
  rw [normal_lhs]
  simp only [hy]

end Normal

/-- The closed form of `Series1::best_fit_line` solves the degree-1 normal equations (unit weights); its five sums are
    variables here. -/
theorem closedForm_solves_normal_equations {n sx sy sxx sxy : F} (hn : n ≠ 0) (hd : n * sxx - sx * sx ≠ 0) :
    let m := (n * sxy - sx * sy) / (n * sxx - sx * sx)
    let b := (sy - m * sx) / n
    n * b + sx * m = sy ∧ sx * b + sxx * m = sxy := by
  intro m b
  have hm : m * (n * sxx - sx * sx) = n * sxy - sx * sy := div_mul_cancel₀ _ hd
  have hb : b * n = sy - m * sx := div_mul_cancel₀ _ hn
  exact ⟨by linear_combination hb, mul_right_cancel₀ hn (by linear_combination sx * hb + hm)⟩

/-! non-vacuity: the line 2x + 1 on x = 0, 1, 2 -/
example : NormalEq (K := 2) (n := 3) (fun i => ((i : Nat) : ℚ)) (fun i => 2 * ((i : Nat) : ℚ) + 1) (fun _ => 1)
    (fun j => if (j : Nat) = 0 then 1 else 2) :=
  exact_data_solves _ _ _ _ fun i => by simp [pval, Fin.sum_univ_two, add_comm]

end C09
