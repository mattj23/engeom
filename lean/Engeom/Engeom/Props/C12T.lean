import Engeom.Generated.RsC12
import Engeom.Lemmas.Loops
/-
  C12 — translation tie.  `chain_candidates` (src/common/indices.rs: the search, among the pairs not yet used, for THE
  pair that continues a chain — exactly one candidate, else none; shared by `chained_indices`, boundary extraction and
  `Mesh::section`), regenerated with its `for … in pairs.iter().enumerate()` loop, equals the model's `chainCandidate`
  when every position is in range (in `chained_indices` the positions are a subset of `0 .. indices.len()`).
-/
namespace C12T

/-- the two-element arrays `[u32; 2]` of the Rust code -/
def asArrays (idx : List Edge) : List (List Nat) := idx.map (fun e => [e.1, e.2])

theorem asArrays_entry {idx : List Edge} {i : Nat} (h : i < idx.length) (fwd : Bool) :
    ((asArrays idx).getD i default).getD (if fwd then 0 else 1) default
      = (if fwd then (idx[i]).1 else (idx[i]).2) := by
  cases fwd <;> simp [asArrays, List.getD_eq_getElem?_getD, h]

theorem chain_candidates_eq (pairs : List Nat) (idx : List Edge) (v : Nat) (fwd : Bool)
    (hin : ∀ i ∈ pairs, i < idx.length) :
    GenRs.chain_candidates pairs (asArrays idx) v fwd = chainCandidate pairs idx v fwd := by
  unfold GenRs.chain_candidates chainCandidate
  -- the loop is a filter over the enumerated positions (the emitted `fun acc (k, i) => …` is `fun acc p => … p.1 p.2`)
  have hloop := Loops.foldl_push_if
    (fun (p : Nat × Nat) => ((asArrays idx).getD p.2 default).getD (if fwd then 0 else 1) default = v) id
    (enumerateL pairs) []
  rw [List.nil_append, List.map_id] at hloop
  refine (congrArg (fun c : List (Nat × Nat) => if c.length = 1 then some (c.getD 0 default) else none) hloop).trans ?_
  simp only []                                    -- beta-reduces the function `congrArg` was given
  -- … which is the model's filter with the components swapped
  have hsw : (enumerateL pairs).filter (fun p => decide (((asArrays idx).getD p.2 default).getD (if fwd then 0 else 1) default = v))
      = ((pairs.zipIdx).filter (fun (p : Nat × Nat) =>
          match idx[p.1]? with
          | some e => (if fwd then e.1 else e.2) == v
          | none => false)).map Prod.swap := by
    unfold enumerateL
    rw [List.filter_map]
    congr 1
    apply List.filter_congr
    intro p hp
    have hlt := hin p.1 (List.mem_of_getElem? (List.mem_zipIdx_iff_getElem?.mp hp))
    simp only [Function.comp]
    rw [asArrays_entry hlt fwd]
    simp only [List.getElem?_eq_getElem hlt]
    rw [Bool.eq_iff_iff]
    simp
  rw [hsw]
  generalize ((pairs.zipIdx).filter _) = c
  match c with
  | [] => rfl
  | [(i, k)] => rfl
  | _ :: _ :: _ => simp [List.length_cons]
end C12T
