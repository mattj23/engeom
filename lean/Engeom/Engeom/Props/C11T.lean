import Engeom.Generated.RsC11
import Engeom.Lemmas.LawfulVec
/-
  C11 — translation tie for src/geom2/circle2.rs (regenerated on every run by tools/rs2lean.py): by unfolding, for
  every scalar type, except `intersections_with`.  There the Rust normalises the centre difference and rotates by
  `FRAC_PI_2`, where the model divides by the centre distance and uses the exact quarter turn `(-y, x)`; the two are
  equal over ℝ (`intersections_with_eq_real`).
-/
set_option linter.unusedSectionVars false
namespace C11T
section
variable {α : Type} [Add α] [Sub α] [Mul α] [Div α] [Neg α] [LT α] [LE α]
  [DecidableLT α] [DecidableLE α] [OfNat α 0] [OfNat α 1] [OfNat α 2] [Scalar α]

theorem from_3_points_eq (p0 p1 p2 : V2 α) :
    GenRs.Circle2_from_3_points p0 p1 p2 = Circle.from3Points p0 p1 p2 := rfl
theorem point_at_angle_eq (c : Circle α) (t : α) : GenRs.Circle2_point_at_angle c t = c.pointAtAngle t := rfl
theorem angle_of_point_eq (c : Circle α) (p : V2 α) : GenRs.Circle2_angle_of_point c p = c.angleOfPoint p := rfl
theorem distance_to_eq (c : Circle α) (p : V2 α) : GenRs.Circle2_distance_to c p = c.distanceTo p := rfl
theorem tangent_points_to_eq (c : Circle α) (p : V2 α) :
    GenRs.Circle2_tangent_points_to c p = c.tangentPointsTo p := rfl
theorem arc_length_eq (a : Arc α) : GenRs.Arc2_length a = a.length := rfl
theorem arc_point_at_angle_eq (a : Arc α) (t : α) : GenRs.Arc2_point_at_angle a t = a.pointAtAngle t := rfl
theorem arc_point_at_fraction_eq (a : Arc α) (f : α) : GenRs.Arc2_point_at_fraction a f = a.pointAtFraction f := rfl
theorem arc_point_at_length_eq (a : Arc α) (l : α) : GenRs.Arc2_point_at_length a l = a.pointAtLength l := rfl
end

theorem norm_sub_rev_eq_dist2 (a b : V2 ℝ) : V2.norm (V2.sub b a) = dist2 a b :=
  congrArg Real.sqrt (LawfulVec.vnormSq_sub_comm b a)

theorem quarter_turn (v : V2 ℝ) :
    Rot2.apply (Rot2.ofAngle ((Scalar.pi : ℝ) / 2)) v = ⟨-v.y, v.x⟩ := by
  rw [Rot2.ofAngle, Rot2.apply, cosR, sinR, piR, Real.cos_pi_div_two, Real.sin_pi_div_two, mul_zero, mul_zero,
    mul_one, mul_one, zero_sub, add_zero]

theorem intersections_with_eq_real (s o : Circle ℝ) :
    GenRs.Circle2_intersections_with s o = s.intersectionsWith o := by
  unfold GenRs.Circle2_intersections_with Circle.intersectionsWith
  simp only [quarter_turn, V2.normalize, norm_sub_rev_eq_dist2, List.nil_append, List.cons_append]
  rfl  -- what still differs is the tolerance: the emitted `ofRat 1 10000000000` against `ccTol`
end C11T
