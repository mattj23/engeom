import Engeom.Props.C20
import Engeom.Props.C20T
import Mathlib.Tactic.LinearCombination
/-
  C20 — theorems about the REGENERATED per-face body of `calc_face_angles` (src/geom3/mesh/conformal.rs,
  `GenRs.face_angles`), over ℝ: fed with the side lengths of a positively oriented planar triangle (`a` opposite `p`,
  `b` opposite `q`, `c` opposite `r`) the code takes its law-of-cosines branch, and the cotangents of the angles it
  returns are the algebraic cotangents `cotAt`, to which `C20.cot_triangle_identity` applies.  Then three smaller
  regenerated fragments: the rejection tests in front of the flattening, `Mesh::uv_with_tol`, `invert_2x2`.
-/
namespace C20U

/-- one corner: `u`, `v` the two edge vectors leaving it -/
theorem corner (u v : V2 ℝ) (hD : 0 < V2.cross u v) :
    let c := Real.sqrt (V2.normSq u)
    let b := Real.sqrt (V2.normSq v)
    let a := Real.sqrt (V2.normSq (V2.sub u v))
    a ≤ b + c ∧ 0 < b ∧ 0 < c ∧
    cotOf (Real.arccos ((b * b + c * c - a * a) / (2 * b * c))) = V2.dot u v / V2.cross u v :=
  C20.cot_lawOfCosines (V2.dot_self_nonneg _) (V2.dot_self_nonneg v) (V2.dot_self_nonneg u) hD
    (by simp only [V2.normSq, V2.dot, V2.sub]; ring) (V2.lagrange u v)

theorem face_angles_cot (p q r : V2 ℝ) (h : 0 < V2.cross (V2.sub q p) (V2.sub r p)) :
    let ang := GenRs.face_angles (V2.norm (V2.sub q r)) (V2.norm (V2.sub r p)) (V2.norm (V2.sub q p))
    cotOf ang.1 = cotAt p q r ∧ cotOf ang.2.1 = cotAt q r p ∧ cotOf ang.2.2 = cotAt r p q := by
  have hA : 0 ≤ V2.normSq (V2.sub q r) := V2.dot_self_nonneg _
  have hB : 0 ≤ V2.normSq (V2.sub r p) := V2.dot_self_nonneg _
  have hC : 0 ≤ V2.normSq (V2.sub q p) := V2.dot_self_nonneg _
  -- the three corners: the side opposite comes first, the other two in the order the code names them.  At `q` and `r`
  -- those sides are not all differences FROM the corner (`law_of_cosines_numerator`, `V2.lagrange` give one of them
  -- negated under `normSq`), so the two identities are checked in coordinates
  obtain ⟨tp, -, -, kp⟩ := C20.cot_lawOfCosines hA hB hC h (C20.law_of_cosines_numerator p q r)
    (V2.lagrange _ _)
  obtain ⟨tq, -, -, kq⟩ := C20.cot_lawOfCosines (d := V2.dot (V2.sub r q) (V2.sub p q)) hB hA hC
    ((C20.cross_cyclic p q r).symm ▸ h) (by simp only [V2.normSq, V2.dot, V2.sub]; ring)
    (by simp only [V2.normSq, V2.dot, V2.cross, V2.sub]; ring)
  obtain ⟨tr, -, -, kr⟩ := C20.cot_lawOfCosines (d := V2.dot (V2.sub p r) (V2.sub q r)) hC hA hB
    (C20.cross_cyclic r p q ▸ h) (by simp only [V2.normSq, V2.dot, V2.sub]; ring)
    (by simp only [V2.normSq, V2.dot, V2.cross, V2.sub]; ring)
  intro ang
  have hang : ang = faceAngles (√(V2.normSq (V2.sub q r))) (√(V2.normSq (V2.sub r p))) (√(V2.normSq (V2.sub q p))) :=
    C20T.face_angles_eq _ _ _
  rw [hang, faceAngles, if_neg (not_lt.2 tp), if_neg (not_lt.2 tq), if_neg (not_lt.2 tr)]
  exact ⟨kp, kq, kr⟩

/-- The cotangents the code computes satisfy the per-triangle identity behind linear precision
    (`C20.cot_triangle_identity`): the face's contribution at `p0` to the cotangent Laplacian of the planar layout
    is the quarter-turned opposite edge. -/
theorem regenerated_cot_triangle_identity (p0 p1 p2 : V2 ℝ)
    (h : 0 < V2.cross (V2.sub p1 p0) (V2.sub p2 p0)) :
    let ang := GenRs.face_angles (V2.norm (V2.sub p1 p2)) (V2.norm (V2.sub p2 p0)) (V2.norm (V2.sub p1 p0))
    V2.add (V2.smul (cotOf ang.2.2) (V2.sub p0 p1)) (V2.smul (cotOf ang.2.1) (V2.sub p0 p2)) =
      C20.J (V2.sub p2 p1) := by
  intro ang
  obtain ⟨_, h1, h2⟩ := face_angles_cot p0 p1 p2 h
  rw [h1, h2]
  exact C20.cot_triangle_identity p0 p1 p2 (ne_of_gt h)

/-- non-vacuity: the unit right triangle -/
example : 0 < V2.cross (V2.sub (⟨1, 0⟩ : V2 ℝ) ⟨0, 0⟩) (V2.sub (⟨0, 1⟩ : V2 ℝ) ⟨0, 0⟩) := by
  simp [V2.cross, V2.sub]

/-- The two rejection tests in front of the flattening (the translator's pattern requires the pipeline to start right
    after the second); `chi` stands for `V − E + F`, as a natural number: `V + F = E + chi`. -/
theorem flatten_accepts_iff_disk (nLoops nPatches nVert nEdges nFaces chi : Nat) (hchi : nVert + nFaces = nEdges + chi) :
    (GenRs.flatten_reject_loops nLoops = false ∧ GenRs.flatten_reject_topology chi nPatches = false) ↔
      acceptsDisk nLoops nPatches nVert nEdges nFaces = true := by
  rw [C20.acceptsDisk_iff]
  unfold GenRs.flatten_reject_loops GenRs.flatten_reject_topology
  simp only [Bool.or_eq_false_iff, decide_eq_false_iff_not, not_not, ne_eq]
  constructor
  · rintro ⟨h1, h2, h3⟩; exact ⟨h1, h3, by omega⟩
  · rintro ⟨h1, h2, h3⟩; exact ⟨h1, by omega, h2⟩

/-- `Mesh::uv_with_tol` moves the query into the mesh frame itself (the translator's pattern requires that re-binding)
    and hands the projection it delegates to NO transform: the motion is not applied twice.  (`Option ℝ` is how the
    fragment types the source's `Option<&Iso3>`.) -/
theorem uv_with_tol_moves_the_query_once (t : Option ℝ) : GenRs.uv_delegated_transform t = none := rfl

/-- `invert_2x2` (the 2×2 solve inside `best_fit_curve`); the translator's pattern pins its singularity test to the EXACT
    comparison `det == 0.0`. -/
theorem invert_2x2_is_inverse (a b c d : ℝ) (h : GenRs.inv2_det a b c d ≠ 0) :
    let k := GenRs.inv2_inv_det (GenRs.inv2_det a b c d)
    let (r00, r01, r10, r11) := (GenRs.inv2_r00 a b c d k, GenRs.inv2_r01 a b c d k, GenRs.inv2_r10 a b c d k, GenRs.inv2_r11 a b c d k)
    a * r00 + b * r10 = 1 ∧ a * r01 + b * r11 = 0 ∧ c * r00 + d * r10 = 0 ∧ c * r01 + d * r11 = 1 := by
  simp only [GenRs.inv2_det, GenRs.inv2_inv_det, GenRs.inv2_r00, GenRs.inv2_r01, GenRs.inv2_r10, GenRs.inv2_r11] at *
  have hk : (a * d - b * c) * (1 / (a * d - b * c)) = 1 := mul_one_div_cancel h
  exact ⟨by linear_combination hk, by ring, by ring, by linear_combination hk⟩

/-- Nothing in it depends on the size of the mesh: the entries are sums of squared edge lengths (a part a thousand
    times smaller scales them by 1e-6), and the determinant scales by `s²`, never to zero.  Of the result only `r00`
    is stated. -/
theorem invert_2x2_scale (a b c d s : ℝ) (hs : s ≠ 0) (h : GenRs.inv2_det a b c d ≠ 0) :
    GenRs.inv2_det (s * a) (s * b) (s * c) (s * d) ≠ 0 ∧
    GenRs.inv2_r00 (s * a) (s * b) (s * c) (s * d) (GenRs.inv2_inv_det (GenRs.inv2_det (s * a) (s * b) (s * c) (s * d)))
      = GenRs.inv2_r00 a b c d (GenRs.inv2_inv_det (GenRs.inv2_det a b c d)) / s := by
  simp only [GenRs.inv2_det, GenRs.inv2_inv_det, GenRs.inv2_r00] at *
  have hd : s * a * (s * d) - s * b * (s * c) = s * s * (a * d - b * c) := by ring
  refine ⟨by rw [hd]; exact mul_ne_zero (mul_ne_zero hs hs) h, ?_⟩
  rw [hd]; field_simp

example : GenRs.inv2_det (2 : ℝ) 1 1 1 ≠ 0 := by norm_num [GenRs.inv2_det]

end C20U
