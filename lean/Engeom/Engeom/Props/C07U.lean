import Engeom.Props.C07
import Engeom.Props.C07T
/-
  C07 — "transform and residuals always describe the same state" with the REGENERATED residual entry of
  `PointsToMesh::residuals` / `PointsToCurve::residuals`: `C07.final_residuals_honest` with the `resid` of the model
  problems replaced by the regenerated function (the equalities of Props/C07T are definitional).
-/
namespace C07U
set_option linter.unusedSectionVars false
open AlignProblem
variable {α : Type} [Add α] [Sub α] [Mul α] [Div α] [Neg α] [LT α] [LE α]
  [DecidableLT α] [DecidableLE α] [OfNat α 0] [OfNat α 1] [OfNat α 2] [Scalar α]

theorem residuals3_plane_honest (verts : List (V3 α)) (faces : List (Nat × Nat × Nat)) (pts : List (V3 α)) (rcD : V3 α)
    (x0 : List α) (ops : List (AlignOp (List α))) :
    let pb := problem3 true verts faces pts rcD
    let s := pb.run (pb.refresh x0) ops
    pb.residuals s = pb.points.map fun p => GenRs.residual3 (pb.move s.x p) (pb.closest (pb.move s.x p)).1 .toPlane :=
  C07.final_residuals_honest (problem3 true verts faces pts rcD) x0 ops

theorem residuals3_point_honest (verts : List (V3 α)) (faces : List (Nat × Nat × Nat)) (pts : List (V3 α)) (rcD : V3 α)
    (x0 : List α) (ops : List (AlignOp (List α))) :
    let pb := problem3 false verts faces pts rcD
    let s := pb.run (pb.refresh x0) ops
    pb.residuals s = pb.points.map fun p => GenRs.residual3 (pb.move s.x p) (pb.closest (pb.move s.x p)).1 .toPoint :=
  C07.final_residuals_honest (problem3 false verts faces pts rcD) x0 ops

theorem residuals2_honest (verts pts : List (V2 α)) (x0 : α × α × α) (ops : List (AlignOp (α × α × α))) :
    let pb := problem2 verts pts
    let s := pb.run (pb.refresh x0) ops
    pb.residuals s = pb.points.map fun p => GenRs.residual2 (pb.move s.x p) (pb.closest (pb.move s.x p)).1 :=
  C07.final_residuals_honest (problem2 verts pts) x0 ops

/-- Which rows the solver is handed in each distance mode (regenerated dispatch of `jacobian()`; the two row functions
    appear as tags): distance to the closest POINT → the point-distance rows, to the closest PLANE → the plane-distance
    rows.  The statement only fixes which tag each mode returns. -/
theorem jacobian_rows_match_the_residual_mode (tp tq : Nat) :
    GenRs.jacobian_dispatch3 DistMode.toPoint tp tq = tp ∧ GenRs.jacobian_dispatch3 DistMode.toPlane tp tq = tq :=
  ⟨rfl, rfl⟩

end C07U
