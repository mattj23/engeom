import Engeom.Props.C03
import Engeom.Props.C03T
/-
  C03 — frame independence about the REGENERATED functions of src/common/surface_point.rs, through the ties of
  Props/C03T; and, read directly (no model function), the pass of `PointCloud::transform` over the normals.
-/
namespace C03U
variable {F : Type} [Field F] [LinearOrder F] [IsStrictOrderedRing F] [Scalar F]

theorem scalar_projection_invariant (T : Iso3 F) (h : C03.IsRot3 T) (s : SP3 F) (q : V3 F) :
    GenRs.SurfacePoint_scalar_projection (s.transformed T) (T.apply q) = GenRs.SurfacePoint_scalar_projection s q := by
  rw [C03T.SurfacePoint_scalar_projection_eq, C03T.SurfacePoint_scalar_projection_eq]
  exact C03.scalarProjection_invariant T h s q

theorem projection_commutes (T : Iso3 F) (h : C03.IsRot3 T) (s : SP3 F) (q : V3 F) :
    GenRs.SurfacePoint_projection (s.transformed T) (T.apply q) = T.apply (GenRs.SurfacePoint_projection s q) := by
  rw [C03T.SurfacePoint_projection_eq, C03T.SurfacePoint_projection_eq]
  exact C03.projection_commutes T h s q

/-- The action of the motion on a direction is the parameter `rot`, any function: the pass does not look at the motion
    (it does not, say, skip a rotation that is close to the identity).  It is regenerated only while the loop over the
    normals stands directly inside `if let Some(normals)`, with no further test in front of it. -/
theorem cloud_normals_all_rotated (normals : List (V3 ℝ)) (rot : V3 ℝ → V3 ℝ) :
    GenRs.cloud_transform_normals normals rot = normals.map rot ∧
    (GenRs.cloud_transform_normals normals rot).length = normals.length ∧
    ∀ i (h : i < normals.length), (GenRs.cloud_transform_normals normals rot)[i]? = some (rot normals[i]) := by
  have e : GenRs.cloud_transform_normals normals rot = normals.map rot := rfl
  refine ⟨e, by rw [e]; simp, ?_⟩
  intro i h
  rw [e]; simp [h]

theorem cloud_normals_compose (normals : List (V3 ℝ)) (r1 r2 : V3 ℝ → V3 ℝ) :
    GenRs.cloud_transform_normals (GenRs.cloud_transform_normals normals r1) r2
      = GenRs.cloud_transform_normals normals (r2 ∘ r1) :=
  List.map_map

end C03U
