import Engeom.Generated.RsC07
import Engeom.Model.AlignLoop
/-
  C07 — translation tie.  The per-sample residual `res[i] = …` of `PointsToMesh::residuals`
  (src/geom3/align3/points_to_mesh.rs, both distance modes, with `dist` of src/common/points.rs) and of
  `PointsToCurve::residuals` (src/geom2/align2/points_to_curve.rs) is, for every scalar type, the `resid` of the
  model problems `problem3` / `problem2` that the honesty theorems of Props/C07 are about.  `tie` is the tie-break
  flag that `closestSurface2/3` return beside the surface point; `resid` ignores it.
-/
namespace C07T
set_option linter.unusedSectionVars false
variable {α : Type} [Add α] [Sub α] [Mul α] [Div α] [Neg α] [LT α] [LE α]
  [DecidableLT α] [DecidableLE α] [OfNat α 0] [OfNat α 1] [OfNat α 2] [Scalar α]

theorem residual3_plane_eq (verts : List (V3 α)) (faces : List (Nat × Nat × Nat)) (pts : List (V3 α)) (rcD : V3 α)
    (p : V3 α) (c : SP3 α) (tie : Bool) :
    GenRs.residual3 p c .toPlane = (problem3 true verts faces pts rcD).resid p (c, tie) := rfl

theorem residual3_point_eq (verts : List (V3 α)) (faces : List (Nat × Nat × Nat)) (pts : List (V3 α)) (rcD : V3 α)
    (p : V3 α) (c : SP3 α) (tie : Bool) :
    GenRs.residual3 p c .toPoint = (problem3 false verts faces pts rcD).resid p (c, tie) := rfl

theorem residual2_eq (verts pts : List (V2 α)) (p : V2 α) (c : SP2 α) (tie : Bool) :
    GenRs.residual2 p c = (problem2 verts pts).resid p (c, tie) := rfl
end C07T
