import Engeom.Props.C04
import Engeom.Props.C04T
/-
  C04 — theorems of Props/C04 about the REGENERATED `between_lengths_by_control` and `trim_front` (src/geom2/curve2.rs,
  over ℝ), through the ties of Props/C04T; and, read directly, the range guard of `Curve2::at_length`.
-/
namespace C04U
variable [Inhabited (V2 ℝ)] [Inhabited (V3 ℝ)]

theorem by_control_beyond_length (c : Curve ℝ (V2 ℝ)) (a b ctl : ℝ) (h : c.length < ctl) :
    GenRs.between_lengths_by_control c a b ctl = none := by
  rw [C04T.between_by_control_eq]; exact C04.byControl_beyond_length c a b ctl h

theorem by_control_inside (c : Curve ℝ (V2 ℝ)) (a b ctl : ℝ) (h0 : ctl ≤ c.length)
    (h1 : smin a b < ctl) (h2 : ctl < smax a b) :
    GenRs.between_lengths_by_control c a b ctl = c.between (smin a b) (smax a b) := by
  rw [C04T.between_by_control_eq]; exact C04.byControl_inside c a b ctl h0 h1 h2

theorem by_control_outside (c : Curve ℝ (V2 ℝ)) (a b ctl : ℝ) (h0 : ctl ≤ c.length)
    (h : ctl < smin a b ∨ (smax a b < ctl ∧ c.closed = true)) :
    GenRs.between_lengths_by_control c a b ctl = c.between (smax a b) (smin a b) := by
  rw [C04T.between_by_control_eq]; exact C04.byControl_outside c a b ctl h0 h

theorem by_control_open_above (c : Curve ℝ (V2 ℝ)) (a b ctl : ℝ) (h0 : ctl ≤ c.length)
    (hopen : c.closed = false) (h : smax a b < ctl) : GenRs.between_lengths_by_control c a b ctl = none := by
  rw [C04T.between_by_control_eq]; exact C04.byControl_open_above c a b ctl h0 hopen h

theorem trim_front_shorter_than_tol (c : Curve ℝ (V2 ℝ)) (l : ℝ) (h : |c.length - l| < c.tol) :
    GenRs.trim_front c l = none := by
  rw [C04T.trim_front_eq]; exact C04.between_shorter_than_tol h

omit [Inhabited (V2 ℝ)] [Inhabited (V3 ℝ)] in
/-- The translator's pattern requires the guard to be the FIRST statement of `at_length`, so no length is wrapped
    around a closed curve before the test. -/
theorem at_length_guard_iff (total l : ℝ) :
    GenRs.at_length_guard total l = true ↔ l < 0 ∨ total < l := by
  unfold GenRs.at_length_guard
  simp

theorem at_length_accepts_the_whole_range (total l : ℝ) (h0 : 0 ≤ l) (h1 : l ≤ total) :
    GenRs.at_length_guard total l = false :=
  Bool.eq_false_iff.mpr (mt (at_length_guard_iff total l).mp (not_or.mpr ⟨not_lt.mpr h0, not_lt.mpr h1⟩))

end C04U
