import Engeom.Model.Selection
import Engeom.Lemmas.Loops
import Engeom.Lemmas.CurveCore
import Mathlib.Data.List.Basic
/-
  C14 — Mesh face selection is set algebra over a per-face predicate.
  The selection (a HashSet in the Rust code) is a list in the model; the statements on `mutate`, `mutatePassList` and
  `nearMesh` are about MEMBERSHIP, hence independent of the order in which the hash set hands out its elements.
  Then the vertex memo of `near_mesh` (it changes no verdict) and the mesh `create_from_indices` builds from a selection.
-/

namespace C14

theorem mutate_add (s : Filter) (P : Nat → Bool) (i : Nat) :
    i ∈ (s.mutate .add P).indices ↔ i ∈ s.indices ∨ (i < s.n ∧ P i = true) := by
  by_cases hi : i ∈ s.indices <;> simp [Filter.mutate, hi]

theorem mutate_remove (s : Filter) (P : Nat → Bool) (i : Nat) :
    i ∈ (s.mutate .remove P).indices ↔ i ∈ s.indices ∧ P i = false := by
  simp [Filter.mutate, List.mem_filter]

theorem mutate_keep (s : Filter) (P : Nat → Bool) (i : Nat) :
    i ∈ (s.mutate .keep P).indices ↔ i ∈ s.indices ∧ P i = true := by
  simp [Filter.mutate, List.mem_filter]

/-- the selection stays duplicate-free (it is a set) -/
theorem mutate_nodup (s : Filter) (op : SelOp) (P : Nat → Bool) (h : s.indices.Nodup) :
    (s.mutate op P).indices.Nodup := by
  cases op
  · simp only [Filter.mutate]
    refine List.nodup_append.mpr ⟨h, (List.nodup_range).filter _, ?_⟩
    intro a ha b hb hab
    subst hab
    have := (List.mem_filter.mp hb).2
    simp [ha] at this
  · exact h.filter _
  · exact h.filter _

theorem mutate_n (s : Filter) (op : SelOp) (P : Nat → Bool) : (s.mutate op P).n = s.n := by cases op <;> rfl

theorem mutate_bounds (s : Filter) (op : SelOp) (P : Nat → Bool) (h : ∀ i ∈ s.indices, i < s.n) :
    (s.mutate op P).n = s.n ∧ ∀ i ∈ (s.mutate op P).indices, i < s.n := by
  refine ⟨mutate_n s op P, fun i hi => ?_⟩
  cases op
  · exact ((mutate_add s P i).mp hi).elim (h i) And.left
  · exact h i ((mutate_remove s P i).mp hi).1
  · exact h i ((mutate_keep s P i).mp hi).1

/-- about `n` only: a chain of `mutate` steps leaves the face count unchanged, so every `add` ranges over the same `0 .. n` -/
theorem chain_mem (steps : List (SelOp × (Nat → Bool))) (s : Filter) :
    (steps.foldl (fun acc st => acc.mutate st.1 st.2) s).n = s.n :=
  List.foldlRecOn steps _ (motive := fun acc : Filter => acc.n = s.n) rfl fun (acc : Filter) h st _ =>
    (mutate_n acc st.1 st.2).trans h

theorem toCheck_mem (s : Filter) (op : SelOp) (i : Nat) :
    i ∈ s.toCheck op ↔ (match op with | .add => i < s.n ∧ i ∉ s.indices | _ => i ∈ s.indices) := by
  cases op <;> simp [Filter.toCheck, List.mem_filter]

theorem mutatePassList_add (s : Filter) (pass : List Nat) (i : Nat) :
    i ∈ (s.mutatePassList .add pass).indices ↔ i ∈ s.indices ∨ i ∈ pass := by
  by_cases hi : i ∈ s.indices <;> simp [Filter.mutatePassList, hi]

theorem mutatePassList_remove (s : Filter) (pass : List Nat) (i : Nat) :
    i ∈ (s.mutatePassList .remove pass).indices ↔ i ∈ s.indices ∧ i ∉ pass := by
  simp [Filter.mutatePassList, List.mem_filter]

theorem mutatePassList_keep (s : Filter) (pass : List Nat) (i : Nat) :
    i ∈ (s.mutatePassList .keep pass).indices ↔ i ∈ s.indices ∧ i ∈ pass := by
  simp [Filter.mutatePassList, List.mem_filter]

/-- Merging the pass list of a predicate `Q` that was evaluated on the faces of `toCheck` (in any order) is
    the step `mutate` with `Q`: the two workhorses of filtering.rs select the same faces. -/
theorem mutatePassList_filter (s : Filter) (op : SelOp) (Q : Nat → Bool) (order : List Nat)
    (horder : ∀ i, i ∈ order ↔ i ∈ s.toCheck op) (i : Nat) :
    i ∈ (s.mutatePassList op (order.filter Q)).indices ↔ i ∈ (s.mutate op Q).indices := by
  cases op <;>
    simp only [mutatePassList_add, mutatePassList_remove, mutatePassList_keep, mutate_add, mutate_remove,
      mutate_keep, List.mem_filter, horder, toCheck_mem] <;>
    by_cases hi : i ∈ s.indices <;> simp [hi]

section Near
variable {R : Type}

/-- everything stored in the memo is the face-independent result of that vertex -/
def MemoInv (base : Nat → Option (Option R)) (m : Memo R) : Prop :=
  ∀ v r, m.get? v = some r → r = base v

theorem MemoInv.nil (base : Nat → Option (Option R)) : MemoInv base ([] : Memo R) := by
  intro v r h; simp [Memo.get?] at h

theorem Memo.get?_cons (v : Nat) (r : Option (Option R)) (m : Memo R) (w : Nat) :
    Memo.get? ((v, r) :: m) w = if v = w then some r else m.get? w := by
  unfold Memo.get?
  by_cases h : v = w
  · simp [h]
  · simp [beq_eq_false_iff_ne.mpr h, h]

theorem MemoInv.cons {base : Nat → Option (Option R)} {m : Memo R} (hm : MemoInv base m) (v : Nat) :
    MemoInv base ((v, base v) :: m) := by
  intro w r hw
  rw [Memo.get?_cons] at hw
  split_ifs at hw with h
  · exact h ▸ (Option.some.inj hw).symm
  · exact hm w r hw

/-- `ha` (here and below): the model's Bool `hasAngleTol`, not a hypothesis -/
theorem nearCheck_transparent (base : Nat → Option (Option R)) (ha : Bool) (angleOk : R → Bool)
    (m : Memo R) (v : Nat) (hm : MemoInv base m) :
    (nearCheck base ha angleOk m v).1 = pureNear base ha angleOk v ∧
    MemoInv base (nearCheck base ha angleOk m v).2 := by
  unfold nearCheck pureNear
  cases hg : m.get? v with
  | some r => exact ⟨by rw [hm v r hg], hm⟩
  | none => exact ⟨rfl, hm.cons v⟩

theorem nearFace_transparent (base : Nat → Option (Option R)) (ha : Bool) (angleOk : Nat → R → Bool)
    (allPoints : Bool) (m : Memo R) (f : Nat) (tri : Face) (hm : MemoInv base m) :
    (nearFace base ha angleOk allPoints m f tri).1 = pureNearFace base ha angleOk allPoints f tri ∧
    MemoInv base (nearFace base ha angleOk allPoints m f tri).2 := by
  obtain ⟨e0, i0⟩ := nearCheck_transparent base ha (angleOk f) m tri.1 hm
  obtain ⟨e1, i1⟩ := nearCheck_transparent base ha (angleOk f) _ tri.2.1 i0
  obtain ⟨e2, i2⟩ := nearCheck_transparent base ha (angleOk f) _ tri.2.2 i1
  unfold nearFace pureNearFace
  simp only [← e0, ← e1, ← e2]
  -- the memoised checks return the pure verdicts; what is left is the short-circuit evaluation
  cases allPoints <;> cases h0 : (nearCheck base ha (angleOk f) m tri.1).1 <;>
    cases h1 : (nearCheck base ha (angleOk f) (nearCheck base ha (angleOk f) m tri.1).2 tri.2.1).1 <;>
    simp [i0, i1, i2]

theorem nearPasses_spec (faces : List Face) (base : Nat → Option (Option R)) (ha : Bool)
    (angleOk : Nat → R → Bool) (allPoints : Bool) :
    ∀ (order : List Nat) (m : Memo R), MemoInv base m →
      (nearPasses faces base ha angleOk allPoints m order).1 =
        order.filter (fun f => pureNearFace base ha angleOk allPoints f ((faces[f]?).getD (0, 0, 0))) ∧
      MemoInv base (nearPasses faces base ha angleOk allPoints m order).2
  | [], m, hm => ⟨rfl, hm⟩
  | f :: r, m, hm => by
    obtain ⟨e, i⟩ := nearFace_transparent base ha angleOk allPoints m f ((faces[f]?).getD (0, 0, 0)) hm
    obtain ⟨e', i'⟩ := nearPasses_spec faces base ha angleOk allPoints r _ i
    simp only [nearPasses, List.filter_cons]
    rw [← e]
    refine ⟨?_, i'⟩
    cases (nearFace base ha angleOk allPoints m f ((faces[f]?).getD (0, 0, 0))).1 <;> simp [e']

/-- `near_mesh` is set algebra over the pure, un-memoised predicate: the result does not depend on the order in which
    the faces were evaluated (the memo, which starts empty, is transparent: `nearPasses_spec`). -/
theorem nearMesh_refines (s : Filter) (faces : List Face) (base : Nat → Option (Option R)) (ha : Bool)
    (angleOk : Nat → R → Bool) (allPoints : Bool) (op : SelOp) (order : List Nat)
    (horder : ∀ i, i ∈ order ↔ i ∈ s.toCheck op) (i : Nat) :
    let Q := fun f => pureNearFace base ha angleOk allPoints f ((faces[f]?).getD (0, 0, 0))
    i ∈ (s.nearMesh faces base ha angleOk allPoints op order).indices ↔
      (match op with
        | .add => i ∈ s.indices ∨ (i < s.n ∧ Q i = true)
        | .remove => i ∈ s.indices ∧ Q i = false
        | .keep => i ∈ s.indices ∧ Q i = true) := by
  intro Q
  obtain ⟨e, _⟩ := nearPasses_spec faces base ha angleOk allPoints order [] (MemoInv.nil base)
  unfold Filter.nearMesh
  rw [e, mutatePassList_filter s op Q order horder]
  cases op
  exacts [mutate_add s Q i, mutate_remove s Q i, mutate_keep s Q i]

end Near

/-- Regression witness (D14): the pre-fix memo stored the final, face-dependent verdict per vertex, so the answer for a
    face depended on which face had asked about the shared vertex first.  Vertex 0 passes the face-independent part;
    the angle test holds for face A (`true`) and not for face B (`false`). -/
theorem memo_prefix_order_dependent :
    let base : Nat → Option (Option Unit) := fun _ => some (some ())
    -- ask for face A first, then for face B …
    let ab := (nearCheck_prefix base true (fun _ => false)
                (nearCheck_prefix base true (fun _ => true) [] 0).2 0).1
    -- … or for face B alone
    let b := (nearCheck_prefix base true (fun _ => false) [] 0).1
    ab = true ∧ b = false := by decide

/-- `nearCheck` gives face B the same answer in both orders -/
example :
    let base : Nat → Option (Option Unit) := fun _ => some (some ())
    (nearCheck base true (fun _ => false) (nearCheck base true (fun _ => true) [] 0).2 0).1 = false ∧
    (nearCheck base true (fun _ => false) [] 0).1 = false := by decide

theorem mem_insertNat (x y : Nat) (l : List Nat) : x ∈ insertNat y l ↔ x ∈ l ∨ x = y := by
  fun_induction insertNat y l
  case case1 => simp                               -- empty list
  case case2 => simp [or_comm]                     -- `y` goes in front of a larger head
  case case3 a r _ h =>
    -- `y` is there already
    obtain rfl : y = a := by simpa using h
    exact ⟨Or.inl, fun h => h.elim id fun e => e ▸ List.mem_cons_self⟩
  case case4 ih => simp [ih, or_assoc]             -- `y` goes into the tail

theorem posOf_eq_idxOf (l : List Nat) (v : Nat) : posOf l v = l.idxOf v := by
  simp [posOf, List.length_takeWhile_eq_findIdx, List.idxOf, bne]

theorem posOf_get {l : List Nat} {v : Nat} (h : v ∈ l) : l[posOf l v]? = some v :=
  posOf_eq_idxOf l v ▸ List.getElem?_idxOf h

theorem uniqueVertices_mem (faces : List Face) (idx : List Nat) (v : Nat) :
    v ∈ uniqueVertices faces idx ↔ ∃ i ∈ idx, ∃ t, faces[i]? = some t ∧ (v = t.1 ∨ v = t.2.1 ∨ v = t.2.2) := by
  -- a loop that only inserts: each step adds the three vertices of face `i`
  refine (Loops.mem_foldl_of_step_or
    (Q := fun i x => ∃ t, faces[i]? = some t ∧ (x = t.1 ∨ x = t.2.1 ∨ x = t.2.2)) (fun acc i x => ?_) idx [] v).trans
    (by simp only [List.not_mem_nil, false_or])
  cases faces[i]? <;> simp [mem_insertNat, or_assoc]

/-- In the mesh built from a selection each new triangle refers back to the original three vertices in the original
    order (same coordinates, same winding): by definition the new triangle is `posOf keep` of `t.1, t.2.1, t.2.2`. -/
theorem createFromIndices_faithful (faces : List Face) (idx : List Nat) (i : Nat) (t : Face)
    (hi : i ∈ idx) (ht : faces[i]? = some t) :
    let keep := (createFromIndices faces idx).1
    keep[posOf keep t.1]? = some t.1 ∧ keep[posOf keep t.2.1]? = some t.2.1 ∧
    keep[posOf keep t.2.2]? = some t.2.2 := by
  intro keep
  have hm : ∀ v, (v = t.1 ∨ v = t.2.1 ∨ v = t.2.2) → v ∈ keep := fun v hv =>
    (uniqueVertices_mem faces idx v).mpr ⟨i, hi, t, ht, hv⟩
  exact ⟨posOf_get (hm _ (Or.inl rfl)), posOf_get (hm _ (Or.inr (Or.inl rfl))), posOf_get (hm _ (Or.inr (Or.inr rfl)))⟩

theorem createFromIndices_only_used (faces : List Face) (idx : List Nat) (v : Nat)
    (hv : v ∈ (createFromIndices faces idx).1) :
    ∃ i ∈ idx, ∃ t, faces[i]? = some t ∧ (v = t.1 ∨ v = t.2.1 ∨ v = t.2.2) :=
  (uniqueVertices_mem faces idx v).mp hv

theorem createFromIndices_count (faces : List Face) (idx : List Nat) (h : ∀ i ∈ idx, i < faces.length) :
    (createFromIndices faces idx).2.length = idx.length := by
  unfold createFromIndices
  simp only
  generalize uniqueVertices faces idx = keep
  induction idx with
  | nil => rfl
  | cons i r ih =>
    have hi : i < faces.length := h i (by simp)
    simp only [List.filterMap_cons, List.getElem?_eq_getElem hi, Option.map_some, List.length_cons]
    rw [ih (fun j hj => h j (List.mem_cons_of_mem _ hj))]

end C14
