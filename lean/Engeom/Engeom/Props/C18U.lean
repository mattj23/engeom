import Engeom.Props.C18
import Engeom.Props.C18T
/-
  C18 — theorems of Props/C18 stated about the REGENERATED functions of src/common/angles.rs, src/common/interval.rs
  and src/geom2/angles2.rs (over ℝ), each carried over by the `rfl` equality of Props/C18T.  Partial: only ranges,
  congruences, membership in an angular interval and overlap of scalar intervals are carried over.
-/
namespace C18U
open Real

theorem angle_signed_pi_range (x : ℝ) : -π ≤ GenRs.angle_signed_pi x ∧ GenRs.angle_signed_pi x ≤ π := by
  rw [C18T.angle_signed_pi_eq]; exact C18.signedPi_range x

theorem angle_signed_pi_congr (x : ℝ) : ∃ k : ℤ, GenRs.angle_signed_pi x = x + k * (2 * π) := by
  rw [C18T.angle_signed_pi_eq]; exact C18.signedPi_congr x

theorem angle_to_2pi_range (x : ℝ) : 0 ≤ GenRs.angle_to_2pi x ∧ GenRs.angle_to_2pi x < 2 * π := by
  rw [C18T.angle_to_2pi_eq]; exact C18.to2pi_range x

theorem angle_to_2pi_congr (x : ℝ) : ∃ k : ℤ, GenRs.angle_to_2pi x = x + k * (2 * π) := by
  rw [C18T.angle_to_2pi_eq]; exact C18.to2pi_congr x

theorem angle_in_direction_range (a b : ℝ) (d : AngleDir) :
    0 ≤ GenRs.angle_in_direction a b d ∧ GenRs.angle_in_direction a b d ≤ 2 * π := by
  rw [C18T.angle_in_direction_eq]; exact C18.inDirection_range a b d

theorem angle_in_direction_cw_add_ccw (a b : ℝ) :
    GenRs.angle_in_direction a b .cw + GenRs.angle_in_direction a b .ccw = 2 * π ∨
    (GenRs.angle_in_direction a b .cw = 0 ∧ GenRs.angle_in_direction a b .ccw = 0) := by
  rw [C18T.angle_in_direction_eq, C18T.angle_in_direction_eq]; exact C18.inDirection_cw_add_ccw a b

theorem directed_angle_range (v w : V2 ℝ) (d : AngleDir) :
    0 ≤ GenRs.directed_angle v w d ∧ GenRs.directed_angle v w d ≤ 2 * π := by
  rw [C18T.directed_angle_eq]; exact C18.directed_range v w d

theorem directed_angle_cw_add_ccw (v w : V2 ℝ) :
    GenRs.directed_angle v w .cw + GenRs.directed_angle v w .ccw = 2 * π ∨
    (GenRs.directed_angle v w .cw = 0 ∧ GenRs.directed_angle v w .ccw = 0) := by
  rw [C18T.directed_angle_eq, C18T.directed_angle_eq]; exact C18.directed_cw_add_ccw v w

theorem angle_interval_new_canonical (s e : ℝ) : C18.Canonical (GenRs.AngleInterval_new s e) := by
  rw [C18T.AngleInterval_new_eq]; exact C18.new_canonical s e

theorem angle_interval_contains_sound (I : AngleInterval ℝ) (hI : C18.Canonical I) (a : ℝ)
    (h : GenRs.AngleInterval_contains I a = true) : C18.SweptTol I a := by
  rw [C18T.AngleInterval_contains_eq] at h; exact C18.contains_sound hI h

theorem angle_interval_contains_complete (I : AngleInterval ℝ) (hI : C18.Canonical I) (a : ℝ) (h : C18.Swept I a) :
    GenRs.AngleInterval_contains I a = true := by
  rw [C18T.AngleInterval_contains_eq]; exact C18.contains_complete hI h

theorem interval_overlaps_iff (I J : Interval ℝ) (hI : I.min ≤ I.max) (hJ : J.min ≤ J.max) :
    GenRs.Interval_overlaps I J = true ↔ ∃ x, (I.min ≤ x ∧ x ≤ I.max) ∧ (J.min ≤ x ∧ x ≤ J.max) := by
  rw [C18T.Interval_overlaps_eq]; exact C18.interval_overlaps_iff hI hJ
end C18U
