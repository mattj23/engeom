import Engeom.Generated.RsC15
import Engeom.Lemmas.Loops
import Engeom.Lemmas.RealScalar
import Engeom.Lemmas.Basics
/-
  C15 — theorems about REGENERATED fragments, over ℝ.
  `KdTree::within` (src/common/kd_tree.rs): the external k-d tree compares SQUARED distances; the code hands it the
  square of the radius — exactly, with nothing added — and reports the root of what comes back.  (The tree itself is
  external and is covered by the correspondence with brute force, not by a theorem.)
  `KdTree::new` (whole-body pattern): the entries handed to the tree.  Its item ids are positions in this list; every
  caller reads them as indices into its own slice of points.
  `Mesh::sample_uniform`: the cumulative-area table.  The POSITION of an entry is used as the id of the face the sample
  lands on, so the table has to have exactly one entry per face, in face order.
-/
namespace C15U

theorem squared_radius_eq (r : ℝ) : GenRs.kd_within_sq r = r * r := rfl

/-- `sq`: the squared distance of a point, `√sq` the distance reported for it.  Stated for `≤`; the model's `withinR`
    and, by its comment, the tree compare strictly, where the equivalence also needs `0 ≤ sq` or `0 < r`. -/
theorem within_squared_radius_is_within_radius (sq r : ℝ) (hr : 0 ≤ r) :
    sq ≤ GenRs.kd_within_sq r ↔ GenRs.kd_within_dist sq ≤ r := by
  show sq ≤ r * r ↔ Real.sqrt sq ≤ r
  rw [Real.sqrt_le_iff, pow_two]
  exact ⟨fun h => ⟨hr, h⟩, And.right⟩

theorem within_reports_the_distance (d : ℝ) (hd : 0 ≤ d) : GenRs.kd_within_dist (d * d) = d := by
  show Real.sqrt (d * d) = d
  exact Real.sqrt_mul_self hd

/-- the entries ARE the points, in order, none skipped and none repeated: position `i` of the tree is point `i` of the
    caller — duplicates included (two identical points in a row are two entries) -/
theorem kd_entries_are_the_points (pts : List (V2 ℝ)) : GenRs.kd_entries pts = pts :=
  (Loops.foldl_push id pts []).trans (by simp)

theorem area_table_eq_scanl (areas : List ℝ) : GenRs.area_table areas = (areas.scanl (· + ·) 0).tail := by
  have := Loops.foldl_scan_push (· + ·) id areas (0 : ℝ) []
  rw [List.nil_append, List.map_id] at this
  exact congrArg Prod.snd this

/-- so a face of zero area gets an entry too -/
theorem area_table_one_entry_per_face (areas : List ℝ) : (GenRs.area_table areas).length = areas.length := by
  rw [area_table_eq_scanl]; simp

/-- what the binary search over the table assumes -/
theorem area_table_non_decreasing (areas : List ℝ) (h : ∀ x ∈ areas, 0 ≤ x) :
    (GenRs.area_table areas).Pairwise (· ≤ ·) := by
  rw [area_table_eq_scanl]
  exact (scanl_add_pairwise_le h 0).tail

example : GenRs.area_table [2, 0, (3 : ℝ)] = [2, 2, 5] := by
  rw [area_table_eq_scanl]; norm_num [List.scanl]

end C15U
