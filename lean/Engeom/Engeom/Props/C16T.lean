import Engeom.Generated.RsC16
import Engeom.Generated.Consts
/-
  C16 — translation tie.  The direction choices of the two deviation functions (the `let normal = if …` of
  `point_curve2_deviation`, src/metrology/line_profiles.rs; the `let d = match dist_mode …` of
  `Mesh::measure_point_deviation`, src/geom3/mesh/measurement.rs) and `SurfaceDeviationSet::new` / `push`, as
  tools/rs2lean.py regenerates them from /repo, are for every scalar type the model functions of Model/Metrology
  (thresholds included: the regenerated literals reduce to the constants of Generated/Consts).
-/
namespace C16T
set_option linter.unusedSectionVars false
variable {α : Type} [Add α] [Sub α] [Mul α] [Div α] [Neg α] [LT α] [LE α]
  [DecidableLT α] [DecidableLE α] [OfNat α 0] [OfNat α 1] [OfNat α 2] [Scalar α] [Inhabited α]

theorem curve_dev_normal_eq (p0 n q : V2 α) :
    GenRs.curve_dev_normal (V2.sub q p0) ⟨p0, n⟩ = curveDevNormal p0 n q := rfl

theorem mesh_dev_dir_eq (c n q : V3 α) (m : DistMode) :
    GenRs.mesh_dev_dir q ⟨c, n⟩ m = meshDevDir c n q m := by
  cases m <;> rfl

/-- trusted: `Iterator::max_by` returns the LAST maximal element, `min_by` the FIRST minimal one -/
theorem devset_new_eq (vs : List α) :
    (DevSet.new vs).maxIdx = (GenRs.devset_new vs).1 ∧ (DevSet.new vs).minIdx = (GenRs.devset_new vs).2 :=
  ⟨rfl, rfl⟩

/-- one cached index of `push`; `P` is `· < d` for the maximum, `d < ·` for the minimum
    (`generalizing := false`: otherwise `h` becomes a second discriminant and the right side is not the `match` of `DevSet.push`) -/
theorem cached_index_eq (values : List α) (idx : Option Nat) (d : α) (P : α → Prop) [DecidablePred P]
    (h : ∀ i, idx = some i → i < values.length) :
    (if (idx.isNone || decide (P (values.getD (idx.getD default) default))) then some values.length else idx) =
    (match (generalizing := false) idx with
      | none => some values.length
      | some i => if P (getAt values i d) then some values.length else some i) := by
  cases idx with
  | none => rfl
  | some i =>
    have hi := h i rfl
    simp [getAt, List.getD_eq_getElem?_getD, List.getElem?_eq_getElem hi]

/-- `hmax`, `hmin` hold under `C16.DevSetInv` (it gives `values[i]? = some m` for a cached `i`); that step is not stated -/
theorem devset_push_eq (s : DevSet α) (d : α)
    (hmax : ∀ i, s.maxIdx = some i → i < s.values.length) (hmin : ∀ i, s.minIdx = some i → i < s.values.length) :
    GenRs.devset_push s.values s.maxIdx s.minIdx d = ((s.push d).values, (s.push d).maxIdx, (s.push d).minIdx) := by
  unfold GenRs.devset_push DevSet.push
  simp only [cached_index_eq s.values _ d (· < d) hmax, cached_index_eq s.values _ d (d < ·) hmin]
  rfl
end C16T
