import Engeom.Model.Intersect
import Engeom.Lemmas.Basics
import Engeom.Lemmas.RealScalar
import Mathlib.Tactic.Ring
import Mathlib.Tactic.LinearCombination
/-
  C06 — Line–polyline intersection search is complete and sound, over ℝ with the regenerated thresholds.
  The Cramer solve of `intersection_param` is sound and unique, a per-edge hit lies on the edge and on the line, the
  slab test prunes no box that holds a point of the line (the traversal built on it: Props/C06B), and the model's
  sort is Mathlib's `insertionSort`.
-/

namespace C06

/-! Obligations on the regenerated constants: the build fails when the source moves one out of its bounds. -/

theorem detTol_bounds : (0 : ℝ) < detTol ∧ (detTol : ℝ) ≤ 1 / 10 ^ 11 := by
  unfold detTol; rw [ofRatR]; norm_num [Gen.INTERSECT_DET_TOL_num, Gen.INTERSECT_DET_TOL_den]

theorem dedupTol_pos : (0 : ℝ) < dedupTolT := ofRatR_pos (by decide) (by decide)

theorem slabSlack_bounds : (0 : ℝ) ≤ slabSlack ∧ (slabSlack : ℝ) ≤ 1 / 10 ^ 6 := by
  unfold slabSlack; rw [ofRatR]; norm_num [Gen.SLAB_SLACK_num, Gen.SLAB_SLACK_den]

theorem intersectionParam_none_iff (a0 ad b0 bd : V2 ℝ) :
    intersectionParam a0 ad b0 bd = none ↔ |bd.x * ad.y - bd.y * ad.x| < detTol := by
  unfold intersectionParam
  dsimp only
  rw [sabs_eq]
  split_ifs with h <;> simp [h]

theorem intersectionParam_some {a0 ad b0 bd : V2 ℝ} {t0 t1 : ℝ} (h : intersectionParam a0 ad b0 bd = some (t0, t1)) :
    bd.x * ad.y - bd.y * ad.x ≠ 0 ∧
    t0 * (bd.x * ad.y - bd.y * ad.x) = (b0.y - a0.y) * bd.x - (b0.x - a0.x) * bd.y ∧
    t1 * (bd.x * ad.y - bd.y * ad.x) = (b0.y - a0.y) * ad.x - (b0.x - a0.x) * ad.y := by
  unfold intersectionParam at h
  dsimp only at h
  rw [sabs_eq] at h
  split_ifs at h with hd
  have hdet : bd.x * ad.y - bd.y * ad.x ≠ 0 := fun h0 => by
    rw [h0, abs_zero] at hd; exact hd detTol_bounds.1
  cases h
  exact ⟨hdet, div_mul_cancel₀ _ hdet, div_mul_cancel₀ _ hdet⟩

/-- Sound: the two parameters describe the same point on both lines. -/
theorem intersectionParam_sound (a0 ad b0 bd : V2 ℝ) (t0 t1 : ℝ)
    (h : intersectionParam a0 ad b0 bd = some (t0, t1)) :
    V2.add a0 (V2.smul t0 ad) = V2.add b0 (V2.smul t1 bd) := by
  obtain ⟨hdet, e0, e1⟩ := intersectionParam_some h
  simp only [V2.add, V2.smul, V2.mk.injEq]
  constructor <;> apply mul_left_cancel₀ hdet
  · linear_combination ad.x * e0 - bd.x * e1
  · linear_combination ad.y * e0 - bd.y * e1

/-- Unique: any common point of the two (non-parallel) lines has exactly these parameters. -/
theorem intersectionParam_unique (a0 ad b0 bd : V2 ℝ) (t0 t1 s u : ℝ)
    (h : intersectionParam a0 ad b0 bd = some (t0, t1))
    (hp : V2.add a0 (V2.smul s ad) = V2.add b0 (V2.smul u bd)) : s = t0 ∧ u = t1 := by
  obtain ⟨hdet, e0, e1⟩ := intersectionParam_some h
  simp only [V2.add, V2.smul, V2.mk.injEq] at hp
  obtain ⟨hx, hy⟩ := hp
  constructor <;> apply mul_right_cancel₀ hdet
  · linear_combination bd.x * hy - bd.y * hx - e0
  · linear_combination ad.x * hy - ad.y * hx - e1

theorem rayEdge_on_edge {o d v0 v1 : V2 ℝ} {t : ℝ} (h : rayEdge o d v0 v1 = some t) :
    ∃ t1, 0 ≤ t1 ∧ t1 ≤ 1 ∧ V2.add o (V2.smul t d) = V2.add v0 (V2.smul t1 (V2.sub v1 v0)) := by
  unfold rayEdge at h
  split at h
  · next t0 t1 hp =>
    split_ifs at h with hc
    cases h
    simp only [Bool.and_eq_true, decide_eq_true_eq] at hc
    exact ⟨t1, hc.1, hc.2, intersectionParam_sound _ _ _ _ _ _ hp⟩
  · cases h

theorem rayEdge_none (o d v0 v1 : V2 ℝ) (h : rayEdge o d v0 v1 = none) :
    intersectionParam o d v0 (V2.sub v1 v0) = none ∨
    ∃ t0 t1, intersectionParam o d v0 (V2.sub v1 v0) = some (t0, t1) ∧ (t1 < 0 ∨ 1 < t1) := by
  unfold rayEdge at h
  split at h
  · next t0 t1 hp =>
    split_ifs at h with hc
    simp only [Bool.and_eq_true, decide_eq_true_eq, not_and_or, not_le] at hc
    exact Or.inr ⟨t0, t1, hp, hc⟩
  · next hp => exact Or.inl hp

/-- after the axes tested so far the box is not pruned and the line parameter `t` is still inside the bracket; kept by
    every axis in whose slab the point `o + t·d` lies (`slabAxis_inv`) -/
def SlabInv (s : SlabState ℝ) (t : ℝ) : Prop := s.hit = true ∧ s.tmin ≤ t ∧ t ≤ s.tmax

theorem slab_param_between {lo hi o d t : ℝ} (hd : d ≠ 0) (h1 : lo ≤ o + t * d) (h2 : o + t * d ≤ hi) :
    min ((lo - o) * (1 / d)) ((hi - o) * (1 / d)) ≤ t ∧ t ≤ max ((lo - o) * (1 / d)) ((hi - o) * (1 / d)) := by
  rw [mul_one_div, mul_one_div]
  have h1' : lo - o ≤ t * d := sub_le_iff_le_add'.mpr h1
  have h2' : t * d ≤ hi - o := le_sub_iff_add_le'.mpr h2
  rcases hd.lt_or_gt with hneg | hpos
  · exact ⟨(min_le_right _ _).trans ((div_le_iff_of_neg hneg).mpr h2'),
      ((le_div_iff_of_neg hneg).mpr h1').trans (le_max_left _ _)⟩
  · exact ⟨(min_le_left _ _).trans ((div_le_iff₀ hpos).mpr h1'),
      ((le_div_iff₀ hpos).mpr h2').trans (le_max_right _ _)⟩

theorem slabAxis_of_ne (big : ℝ) (s : SlabState ℝ) (lo hi o d : ℝ) (hd : d ≠ 0) :
    slabAxis big s lo hi o d =
      let t1 := max s.tmin (min ((lo - o) * (1 / d)) ((hi - o) * (1 / d)))
      let t2 := min s.tmax (max ((lo - o) * (1 / d)) ((hi - o) * (1 / d)))
      ⟨s.hit && decide (t1 ≤ t2 + (max |t1| |t2| + 1) * slabSlack), t1, t2⟩ := by
  have hcond : (decide (d < 0) || decide (0 < d)) = true := by rcases hd.lt_or_gt with h | h <;> simp [h]
  unfold slabAxis
  rw [if_pos hcond]
  dsimp only
  split_ifs with hfn
  · simp only [smax_eq, smin_eq, sabs_eq, min_eq_right hfn.le, max_eq_left hfn.le]
  · simp only [smax_eq, smin_eq, sabs_eq, min_eq_left (not_lt.mp hfn), max_eq_right (not_lt.mp hfn)]

theorem slabAxis_zero (big : ℝ) (s : SlabState ℝ) (lo hi o : ℝ) :
    slabAxis big s lo hi o 0 = ⟨s.hit && (decide (lo ≤ o) && decide (o ≤ hi)), s.tmin, s.tmax⟩ := by
  simp [slabAxis]

theorem slabAxis_inv (big : ℝ) {s : SlabState ℝ} {lo hi o d t : ℝ} (hs : SlabInv s t)
    (h1 : lo ≤ o + t * d) (h2 : o + t * d ≤ hi) : SlabInv (slabAxis big s lo hi o d) t := by
  obtain ⟨hh, hmin, hmax⟩ := hs
  rcases eq_or_ne d 0 with rfl | hd
  · rw [mul_zero, add_zero] at h1 h2
    rw [slabAxis_zero]
    exact ⟨by simp [hh, h1, h2], hmin, hmax⟩
  · obtain ⟨k1, k2⟩ := slab_param_between hd h1 h2
    rw [slabAxis_of_ne big s lo hi o d hd]
    refine ⟨?_, max_le hmin k1, le_min hmax k2⟩
    -- the bracket still contains `t`, and the slack only widens it
    simp only [hh, Bool.true_and, decide_eq_true_eq]
    exact ((max_le hmin k1).trans (le_min hmax k2)).trans (le_add_of_nonneg_right
      (mul_nonneg (add_nonneg (le_max_of_le_left (abs_nonneg _)) zero_le_one) slabSlack_bounds.1))

/-- The pruning test is complete: a box holding some point `o + t·d` with `|t| ≤ big` (any sign of `t`, any zero
    direction component) is not pruned.  What follows for the traversal: `visitT_complete` in Props/C06B. -/
theorem slab_complete (big : ℝ) (mins maxs o d : V2 ℝ) (t : ℝ) (ht : |t| ≤ big)
    (hx : mins.x ≤ o.x + t * d.x ∧ o.x + t * d.x ≤ maxs.x)
    (hy : mins.y ≤ o.y + t * d.y ∧ o.y + t * d.y ≤ maxs.y) :
    castRaySlab big mins maxs o d = true := by
  have h0 : SlabInv (⟨true, -big, big⟩ : SlabState ℝ) t := ⟨rfl, abs_le.mp ht⟩
  exact (slabAxis_inv big (slabAxis_inv big h0 hx.1 hx.2) hy.1 hy.2).1

theorem lerp_mem_Icc {lo hi a b t : ℝ} (h0 : 0 ≤ t) (h1 : t ≤ 1) (ha : lo ≤ a ∧ a ≤ hi) (hb : lo ≤ b ∧ b ≤ hi) :
    lo ≤ a + t * (b - a) ∧ a + t * (b - a) ≤ hi := by
  have e : a + t * (b - a) = (1 - t) * a + t * b := by ring
  have h1' := sub_nonneg.mpr h1
  rw [e]
  constructor
  · calc lo = (1 - t) * lo + t * lo := by ring
      _ ≤ _ := add_le_add (mul_le_mul_of_nonneg_left ha.1 h1') (mul_le_mul_of_nonneg_left hb.1 h0)
  · calc (1 - t) * a + t * b ≤ (1 - t) * hi + t * hi :=
        add_le_add (mul_le_mul_of_nonneg_left ha.2 h1') (mul_le_mul_of_nonneg_left hb.2 h0)
      _ = hi := by ring

/-- the x half of "a point of an edge lies in the box of that edge"; the traversal uses `inBox_convex` (Props/C06B) -/
theorem edge_point_in_box (v0 v1 : V2 ℝ) (t1 : ℝ) (h0 : 0 ≤ t1) (h1 : t1 ≤ 1) :
    min v0.x v1.x ≤ v0.x + t1 * (v1.x - v0.x) ∧ v0.x + t1 * (v1.x - v0.x) ≤ max v0.x v1.x :=
  lerp_mem_Icc h0 h1 ⟨min_le_left _ _, le_max_left _ _⟩ ⟨min_le_right _ _, le_max_right _ _⟩

theorem insertByT_eq (x : ℝ × Nat) (l : List (ℝ × Nat)) :
    insertByT x l = List.orderedInsert (fun a b : ℝ × Nat => a.1 ≤ b.1) x l := by
  induction l with
  | nil => rfl
  | cons a r ih =>
    rw [insertByT, List.orderedInsert_cons, ih]
    split_ifs with h1 h2 h2
    · exact absurd h2 (not_le.mpr h1)
    · rfl
    · rfl
    · exact absurd (not_lt.mp h1) h2

theorem sortByT_eq (l : List (ℝ × Nat)) : sortByT l = List.insertionSort (fun a b : ℝ × Nat => a.1 ≤ b.1) l :=
  congrArg (fun f => List.foldr f [] l) (funext fun x => funext (insertByT_eq x))

theorem sortByT_perm (l : List (ℝ × Nat)) : (sortByT l).Perm l := by
  rw [sortByT_eq]; exact List.perm_insertionSort _ l

theorem sortByT_sorted (l : List (ℝ × Nat)) : (sortByT l).Pairwise (fun a b => a.1 ≤ b.1) := by
  have : Std.Total (fun a b : ℝ × Nat => a.1 ≤ b.1) := ⟨fun a b => le_total a.1 b.1⟩
  have : IsTrans (ℝ × Nat) (fun a b : ℝ × Nat => a.1 ≤ b.1) := ⟨fun _ _ _ h1 h2 => le_trans h1 h2⟩
  rw [sortByT_eq]; exact List.pairwise_insertionSort _ l

theorem spanning_iff_two (verts : List (V2 ℝ)) (o d : V2 ℝ) :
    (spanningRay verts o d).isSome = true ↔ (naiveIntersections verts o d).length = 2 := by
  unfold spanningRay
  split
  · next a b h => rw [h]; exact ⟨fun _ => rfl, fun _ => rfl⟩
  · next h =>
    refine ⟨fun h' => (Bool.false_ne_true h').elim, fun h2 => ?_⟩
    obtain ⟨a, b, e⟩ := List.length_eq_two.mp h2
    exact absurd e (h a b)

/-- Not stated: that `t1`, `t2` are the two crossing parameters. -/
theorem spanning_direction (verts : List (V2 ℝ)) (o d p q : V2 ℝ) (h : spanningRay verts o d = some (p, q)) :
    ∃ t1 t2, V2.sub q p = V2.smul (t2 - t1) d ∧ p = V2.add o (V2.smul t1 d) := by
  unfold spanningRay at h
  split at h
  · next a b _ =>
    cases h
    refine ⟨a.1, b.1, ?_, rfl⟩
    simp only [V2.sub, V2.add, V2.smul, V2.mk.injEq]
    constructor <;> ring
  · cases h

/-! non-vacuity: a crossing pair -/
example : intersectionParam (⟨0, 0⟩ : V2 ℝ) ⟨1, 0⟩ ⟨2, -1⟩ ⟨0, 2⟩ = some (2, 1 / 2) := by
  unfold intersectionParam
  have hd : ¬ sabs ((0 : ℝ) * 0 - 2 * 1) < detTol := by
    rw [sabs_eq, not_lt]; exact detTol_bounds.2.trans (by norm_num)
  simp only [hd, if_false]
  norm_num

end C06
