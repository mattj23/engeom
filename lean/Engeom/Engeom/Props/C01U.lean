import Engeom.Props.C01
import Engeom.Props.C01T
/-
  C01 — the theorems of Props/C01 about the REGENERATED code (over ℝ), through the ties of Props/C01T; and the
  closedness test of `Curve2::from_points`, read directly.
-/
namespace C01U
variable [Inhabited (V2 ℝ)] [Inhabited (V3 ℝ)]

theorem lengths3_spec (v : List (V3 ℝ)) (hne : v ≠ []) :
    (GenRs.from_points_lengths3 v).length = v.length ∧ (GenRs.from_points_lengths3 v).head? = some 0 ∧
    (GenRs.from_points_lengths3 v).Pairwise (· ≤ ·) ∧
    (GenRs.from_points_lengths3 v).getLast? = some (C01.edgeSum v) := by
  rw [C01T.from_points_lengths3_eq v hne]
  exact C01.cumLengths_spec v hne

theorem lengths2_spec (v : List (V2 ℝ)) (hne : v ≠ []) :
    (GenRs.from_points_lengths2 v).length = v.length ∧ (GenRs.from_points_lengths2 v).head? = some 0 ∧
    (GenRs.from_points_lengths2 v).Pairwise (· ≤ ·) ∧
    (GenRs.from_points_lengths2 v).getLast? = some (C01.edgeSum v) := by
  rw [C01T.from_points_lengths2_eq add_comm v hne]
  exact C01.cumLengths_spec v hne

theorem at_length2_none_iff (c : Curve ℝ (V2 ℝ)) (l : ℝ) (hb : c.blend = true) (hn : 0 < c.count) :
    GenRs.at_length2 c l = none ↔ (l < 0 ∨ c.length < l) := by
  rw [C01T.at_length2_whole c l hb hn]
  exact C01.atLength_none_iff c l

theorem at_length3_none_iff (c : Curve ℝ (V3 ℝ)) (l : ℝ) :
    GenRs.at_length3 c l = none ↔ (l < 0 ∨ c.length < l) := by
  rw [C01T.at_length3_whole c l]
  exact C01.atLength_none_iff c l

theorem at_length2_length_along (c : Curve ℝ (V2 ℝ)) (hw : C01.WF c) (hb : c.blend = true) (l : ℝ)
    (h0 : 0 ≤ l) (hL : l ≤ c.length) :
    ∃ s, GenRs.at_length2 c l = some s ∧ GenRs.length_along2 c.lengths s = l ∧ s.index + 1 < c.verts.length ∧
      0 ≤ s.fraction ∧ s.fraction ≤ 1 := by
  have hn : 0 < c.count := Nat.zero_lt_two.trans_le hw.count
  rw [C01T.at_length2_whole c l hb hn]
  simpa only [C01T.length_along2_eq] using C01.atLength_lengthAlong c hw l h0 hL

theorem at_length3_length_along (c : Curve ℝ (V3 ℝ)) (hw : C01.WF c) (l : ℝ) (h0 : 0 ≤ l) (hL : l ≤ c.length) :
    ∃ s, GenRs.at_length3 c l = some s ∧ GenRs.length_along3 c.lengths s = l ∧ s.index + 1 < c.verts.length ∧
      0 ≤ s.fraction ∧ s.fraction ≤ 1 := by
  rw [C01T.at_length3_whole c l]
  simpa only [C01T.length_along3_eq] using C01.atLength_lengthAlong c hw l h0 hL

omit [Inhabited (V3 ℝ)] in
/-- the tolerance INCLUDED: the de-duplication merges consecutive points at a distance `≤ tol`, and the closedness
    test falls on the same side of "equal" -/
theorem from_points_is_closed2_iff (pts : List (V2 ℝ)) (tol : ℝ) (h : 2 ≤ pts.length) :
    GenRs.from_points_is_closed2 pts tol = true ↔ vdist (pts.getD 0 default) (pts.getLast?.getD default) ≤ tol := by
  unfold GenRs.from_points_is_closed2
  simp [h]

theorem closed_when_the_end_gap_equals_tol (pts : List (V2 ℝ)) (tol : ℝ) (h : 2 ≤ pts.length)
    (hg : vdist (pts.getD 0 default) (pts.getLast?.getD default) = tol) :
    GenRs.from_points_is_closed2 pts tol = true :=
  (from_points_is_closed2_iff pts tol h).mpr (le_of_eq hg)

theorem open_when_the_end_gap_exceeds_tol (pts : List (V2 ℝ)) (tol : ℝ) (h : 2 ≤ pts.length)
    (hg : tol < vdist (pts.getD 0 default) (pts.getLast?.getD default)) :
    GenRs.from_points_is_closed2 pts tol = false :=
  Bool.eq_false_iff.mpr (mt (from_points_is_closed2_iff pts tol h).mp (not_le.mpr hg))

end C01U
