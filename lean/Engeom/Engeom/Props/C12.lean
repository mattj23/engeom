import Engeom.Model.Topology
import Mathlib.Tactic.Positivity
import Mathlib.Tactic.Ring
import Mathlib.Algebra.Order.Field.Basic
import Mathlib.Data.List.Perm.Basic
/-
  C12 — Mesh connectivity results are exact partitions and always terminate.
  Every statement is for ALL lists, i.e. for every hash-iteration / pick order.
  Partial: nothing about the edge counts (`uniqueEdges`, `manifoldOk`, …); connectivity (closed under adjacency, linked
  to the seed) for `fillLoop` only: `patches` and `clusters` have the partitions.  `chainedIndices`: Props/C13.
-/

namespace C12

theorem takeOut_perm {v : Nat} {es : List Edge} {w : Nat} {es' : List Edge}
    (h : takeOut v es = some (w, es')) : es.Perm ((v, w) :: es') := by
  fun_induction takeOut v es generalizing w es'
  case case1 => simp at h                          -- no edges
  case case2 e r hv =>
    -- the head `e` leaves `v`
    obtain ⟨rfl, rfl⟩ : e.2 = w ∧ r = es' := by simpa using h
    obtain rfl : e.1 = v := by simpa using hv
    rfl
  case case3 e r hv w' r' hr ih =>                 -- the edge is found in the tail
    obtain ⟨rfl, rfl⟩ : w' = w ∧ e :: r' = es' := by simpa using h
    exact ((ih hr).cons e).trans (List.Perm.swap ..)
  case case4 => simp at h                          -- nor in the tail

/-- `cycleEdges.go start cur tl` lists the edges of the path `cur → t₁ → … → tₖ → start`. -/
theorem walkLoop_spec {fuel : Nat} {es : List Edge} {start cur : Nat} {acc cyc : List Nat} {rest : List Edge}
    (h : walkLoop fuel es start cur acc = .ok cyc rest) :
    ∃ tl, cyc = acc ++ tl ∧ es.Perm (cycleEdges.go start cur tl ++ rest) := by
  fun_induction walkLoop fuel es start cur acc
  case case1 => simp at h                          -- `.outOfFuel`
  case case2 => simp at h                          -- `.stuck`
  case case3 fuel es start cur acc nxt es' ht hn =>
    -- the edge taken leads back to `start`: the walk closes
    obtain ⟨rfl, rfl⟩ : acc = cyc ∧ es' = rest := by simpa using h
    obtain rfl : nxt = start := by simpa using hn
    exact ⟨[], by simp, takeOut_perm ht⟩
  case case4 fuel es start cur acc nxt es' ht hn ih =>    -- the walk goes on from `nxt`
    obtain ⟨tl, h1, h2⟩ := ih h
    exact ⟨nxt :: tl, by simp [h1], (takeOut_perm ht).trans (h2.cons _)⟩

theorem walkLoop_rest_length {fuel : Nat} {es : List Edge} {start cur : Nat} {acc cyc : List Nat}
    {rest : List Edge} (h : walkLoop fuel es start cur acc = .ok cyc rest) : rest.length < es.length := by
  obtain ⟨tl, -, hp⟩ := walkLoop_spec h
  have := hp.length_eq
  cases tl <;> simp only [cycleEdges.go, List.length_append, List.length_cons] at this <;> omega

/-- As a multiset of directed edges; `boundaryLoops` stores each walk reversed. -/
theorem boundaryWalks_every_edge_exactly_once : ∀ (fuel : Nat) (es : List Edge) (ls : List (List Nat)),
    boundaryWalks fuel es = .ok ls → es.Perm (ls.flatMap cycleEdges) := by
  intro fuel es ls h
  fun_induction boundaryWalks fuel es generalizing ls
  case case6 fuel e r cyc rest hw ls' hb ih =>
    -- the walk from `e.1` closed as `cyc = e.1 :: tl`, and `rest` decomposed into `ls'`
    obtain rfl : cyc :: ls' = ls := by simpa using h
    obtain ⟨tl, rfl, hp⟩ := walkLoop_spec hw
    exact hp.trans ((ih ls' hb).append_left _)
  case case7 hno _ => exact (hno ls h).elim       -- `rest` did not decompose: the result is not `.ok`
  case case1 | case3 => cases h; exact .nil        -- no edges, no loops
  all_goals exact nomatch h                        -- `.stuck` and `.outOfFuel` are not `.ok`

theorem walkLoop_fuel_suffices {fuel : Nat} {es : List Edge} {start cur : Nat} {acc : List Nat}
    (h : es.length < fuel) : walkLoop fuel es start cur acc ≠ .outOfFuel := by
  fun_induction walkLoop fuel es start cur acc
  case case1 => omega                              -- fuel 0 is not above `es.length`
  case case2 => simp                               -- `.stuck`
  case case3 => simp                               -- `.ok`
  case case4 fuel es start cur acc nxt es' ht hn ih =>    -- one edge and one unit of fuel less
    have := (takeOut_perm ht).length_eq
    exact ih (by rw [List.length_cons] at this; omega)

/-- Termination: with the fuel `|edges| + 1` the decomposition ends on every input, with loops or with the explicit
    "inconsistently directed" error. -/
theorem boundaryWalks_terminates : ∀ (fuel : Nat) (es : List Edge),
    es.length < fuel → boundaryWalks fuel es ≠ .outOfFuel := by
  intro fuel es h
  fun_induction boundaryWalks fuel es
  case case2 => simp at h                          -- no fuel, but edges left
  case case5 fuel e r hw =>                        -- the walk itself ran out of fuel
    exact absurd hw (walkLoop_fuel_suffices (by simp))
  case case7 fuel e r cyc rest hw _ ih =>          -- the result is that of the rest, which is shorter
    have := walkLoop_rest_length hw
    exact ih (by simp only [List.length_cons] at h this; omega)
  all_goals nofun

/-- Regression witness (D12): with a successor MAP, a vertex that is nobody's successor (its incoming edge was
    overwritten) stays in the queue forever: the pre-fix loop finishes for no amount of fuel. -/
theorem prefixLoops_never_finishes (m : List Edge) (v : Nat) (hv : ∀ u, succOf m u ≠ some v) :
    ∀ (fuel : Nat) (queue working : List Nat) (acc : List (List Nat)),
      v ∈ queue → (prefixLoops fuel m queue working acc).isSome = false := by
  intro fuel queue working acc hq
  -- `v` is never filtered out of the queue: only successors are, and `v` is nobody's successor
  have keep : ∀ {last nxt : Nat} {q : List Nat}, succOf m last = some nxt → v ∈ q → v ∈ q.filter (· != nxt) :=
    fun hs hq => List.mem_filter.mpr ⟨hq, by simpa using fun h => hv _ (h ▸ hs)⟩
  fun_induction prefixLoops fuel m queue working acc
  -- the three recursive calls: a loop closed, the working loop extended, a new loop started
  case case4 hs _ _ ih => exact ih hv (keep hs hq) keep
  case case5 hs _ _ ih => exact ih hv (keep hs hq) keep
  case case6 ih => exact ih hv hq keep
  -- the two exits with `some acc` need an empty queue
  case case2 h => rw [List.isEmpty_iff.mp h] at hq; cases hq
  case case7 h _ hh => rw [List.head?_eq_none_iff.mp hh] at hq; cases hq
  all_goals rfl

theorem succOf_mem {m : List Edge} {u v : Nat} (h : succOf m u = some v) : (u, v) ∈ m := by
  unfold succOf at h
  split at h
  · rename_i e he
    obtain rfl : e.2 = v := by simpa using h
    obtain rfl : e.1 = u := by simpa using List.find?_some he
    exact List.mem_reverse.mp (List.mem_of_find?_eq_some he)
  · simp at h

/-- the bow tie `[0,1,2],[0,3,4]`: boundary map in insertion order; vertex 1's incoming edge
    `0 → 1` is overwritten by `0 → 3` -/
def bowtieMap : List Edge := [(1, 2), (2, 0), (0, 1), (3, 4), (4, 0), (0, 3)]

theorem prefix_bowtie_diverges (fuel : Nat) :
    (prefixLoops fuel bowtieMap [0, 1, 2, 3, 4] [] []).isSome = false := by
  apply prefixLoops_never_finishes bowtieMap 1
  · intro u h
    -- the only edge into 1 leaves 0, and the successor recorded for 0 is 3
    obtain rfl : u = 0 := by simpa [bowtieMap] using succOf_mem h
    revert h; decide
  · simp

example : boundaryLoops bowtieMap = some [[0, 2, 1], [0, 4, 3]] := by decide

section Fill
variable {β : Type}

theorem fillLoop_perm (nb : β → β → Bool) (k : Nat) (st rem comp : List β) :
    ((fillLoop nb k st rem comp).1 ++ (fillLoop nb k st rem comp).2).Perm (comp ++ rem) := by
  fun_induction fillLoop nb k st rem comp
  case case3 k c st rem comp hits ih =>
    refine ih.trans ?_
    rw [List.append_assoc]
    exact (List.filter_append_perm (nb c) rem).append_left _
  all_goals rfl

theorem fillLoop_rem_length (nb : β → β → Bool) (k : Nat) (st rem comp : List β) :
    (fillLoop nb k st rem comp).2.length ≤ rem.length := by
  fun_induction fillLoop nb k st rem comp
  case case3 ih => exact ih.trans (List.length_filter_le _ _)
  all_goals rfl

theorem fillAll_partition (nb : β → β → Bool) {fuel : Nat} {rem : List β} (h : rem.length < fuel) :
    ((fillAll nb fuel rem).flatten).Perm rem := by
  fun_induction fillAll nb fuel rem
  case case1 => omega
  case case2 => rfl
  case case3 k s rem r ih =>
    have hl : r.2.length ≤ rem.length := fillLoop_rem_length nb (rem.length + 2) [s] rem [s]
    rw [List.flatten_cons]
    exact ((ih (by rw [List.length_cons] at h; omega)).append_left _).trans (fillLoop_perm nb _ [s] rem [s])

/-- nothing left in `rem` is adjacent to the component: its maximality -/
def fillClosed (nb : β → β → Bool) (comp rem : List β) : Prop := ∀ x ∈ comp, ∀ y ∈ rem, nb x y = false

/-- With this much fuel the loop stops because the stack is empty (a step pops one element and moves the hits from
    `rem` to the stack); the invariant `hinv` then says that the component is closed. -/
theorem fillLoop_closed {nb : β → β → Bool} {k : Nat} {st rem comp : List β}
    (hk : st.length + rem.length < k) (hinv : ∀ x ∈ comp, x ∈ st ∨ ∀ y ∈ rem, nb x y = false) :
    fillClosed nb (fillLoop nb k st rem comp).1 (fillLoop nb k st rem comp).2 := by
  fun_induction fillLoop nb k st rem comp
  case case1 => omega
  case case2 => exact fun x hx => (hinv x hx).resolve_left List.not_mem_nil
  case case3 k c st rem comp hits ih =>
    apply ih
    · have hl := (List.filter_append_perm (nb c) rem).length_eq
      simp only [List.length_append, List.length_cons, hits] at hl hk ⊢
      omega
    · intro x hx
      rcases List.mem_append.mp hx with hx | hx
      · rcases hinv x hx with h | h
        · rcases List.mem_cons.mp h with rfl | h
          · exact .inr fun y hy => by simpa using (List.mem_filter.mp hy).2
          · exact .inl (List.mem_append_right _ h)
        · exact .inr fun y hy => h y (List.mem_filter.mp hy).1
      · exact .inl (List.mem_append_left _ hx)

/-- Maximal connectivity of the FIRST component `fillAll` grows (its `fillLoop` call): nothing left over is adjacent to it. -/
theorem fillAll_first_component_closed (nb : β → β → Bool) (s : β) (rem : List β) :
    fillClosed nb (fillLoop nb (rem.length + 2) [s] rem [s]).1 (fillLoop nb (rem.length + 2) [s] rem [s]).2 :=
  fillLoop_closed (by simp only [List.length_singleton]; omega) (by intro x hx; left; simpa using hx)

/-- reachable from `seed` along `nb` (for faces: "connected through shared edges") -/
inductive Linked (nb : β → β → Bool) (seed : List β) : β → Prop
  | seed (x : β) : x ∈ seed → Linked nb seed x
  | step (x y : β) : Linked nb seed x → nb x y = true → Linked nb seed y

/-- Soundness: what is in a component is linked to its seed. -/
theorem fillLoop_linked (nb : β → β → Bool) (seed : List β) : ∀ (k : Nat) (st rem comp : List β),
    (∀ x ∈ comp, Linked nb seed x) → (∀ x ∈ st, Linked nb seed x) →
    ∀ x ∈ (fillLoop nb k st rem comp).1, Linked nb seed x := by
  intro k st rem comp hc hs
  fun_induction fillLoop nb k st rem comp
  case case3 k c st rem comp hits ih =>
    have hh : ∀ x ∈ hits, Linked nb seed x := fun x hx =>
      .step c x (hs c List.mem_cons_self) (List.mem_filter.mp hx).2
    apply ih
    · intro x hx; exact (List.mem_append.mp hx).elim (hc x) (hh x)
    · intro x hx; exact (List.mem_append.mp hx).elim (hh x) (fun h => hs x (List.mem_cons_of_mem _ h))
  all_goals exact hc

end Fill

/-- Patches: every face lies in exactly one patch, for every pick order of the faces. -/
theorem patches_partition (faces : List Face) (order : List Nat) :
    ((patches faces order).flatten).Perm order :=
  fillAll_partition _ (by simp)

/-- Voxel clusters: every voxel lies in exactly one cluster, for every order of the set. -/
theorem clusters_partition (vox : List Voxel) : ((clusters vox).flatten).Perm vox :=
  fillAll_partition _ (by simp)

/-- The regenerated `box_geom` face table is closed and consistently wound: every directed edge occurs exactly once and
    so does its reverse. -/
theorem box_closed_oriented : closedOriented Gen.boxFaces = true := by decide +kernel

theorem box_table_shape : Gen.boxVerts.length = 8 ∧ Gen.boxFaces.length = 12 ∧
    Gen.boxFaces.all (fun f => f.1 < 8 && f.2.1 < 8 && f.2.2 < 8) = true := by decide

section BoxNormals
variable {F : Type} [Field F] [LinearOrder F] [IsStrictOrderedRing F]

/-- vertex `i` of `box_geom` (a corner at the origin), from the regenerated coefficient table -/
def boxVertex (w h d : F) (i : Nat) : F × F × F :=
  match Gen.boxVerts[i]? with
  | some (a, b, c) => ((a : F) * w, (b : F) * h, (c : F) * d)
  | none => (0, 0, 0)

/-- (un-normalised face normal) · (face centroid − box centre), times 3 -/
def boxOutward (w h d : F) (f : Face) : F :=
  let p := boxVertex w h d f.1
  let q := boxVertex w h d f.2.1
  let r := boxVertex w h d f.2.2
  let ux := q.1 - p.1; let uy := q.2.1 - p.2.1; let uz := q.2.2 - p.2.2
  let vx := r.1 - p.1; let vy := r.2.1 - p.2.1; let vz := r.2.2 - p.2.2
  let nx := uy * vz - uz * vy; let ny := uz * vx - ux * vz; let nz := ux * vy - uy * vx
  nx * (p.1 + q.1 + r.1 - 3 * w / 2) + ny * (p.2.1 + q.2.1 + r.2.1 - 3 * h / 2) +
    nz * (p.2.2 + q.2.2 + r.2.2 - 3 * d / 2)

omit [LinearOrder F] [IsStrictOrderedRing F] in
theorem boxVertex_scale (w h d : F) (i : Nat) :
    boxVertex w h d i =
      (w * (boxVertex 1 1 1 i).1, h * (boxVertex 1 1 1 i).2.1, d * (boxVertex 1 1 1 i).2.2) := by
  unfold boxVertex
  rcases Gen.boxVerts[i]? with _ | ⟨a, b, c⟩ <;> simp [mul_comm]

omit [LinearOrder F] [IsStrictOrderedRing F] in
/-- each term is a product of one width, one height and one depth -/
theorem boxOutward_scale (w h d : F) (f : Face) :
    boxOutward w h d f = w * h * d * boxOutward 1 1 1 f := by
  unfold boxOutward
  rw [boxVertex_scale w h d f.1, boxVertex_scale w h d f.2.1, boxVertex_scale w h d f.2.2]
  ring

/-- 3/2 = (area vector of length 1) · (3 × the distance 1/2 of the face's plane from the centre) -/
theorem boxOutward_unit : ∀ f ∈ Gen.boxFaces, boxOutward (1 : F) 1 1 f = 3 / 2 := by
  intro f hf
  simp only [Gen.boxFaces, List.mem_cons, List.not_mem_nil, or_false] at hf
  rcases hf with rfl | rfl | rfl | rfl | rfl | rfl | rfl | rfl | rfl | rfl | rfl | rfl <;>
    simp only [boxOutward, boxVertex, Gen.boxVerts, List.getElem?_cons_succ, List.getElem?_cons_zero] <;>
    norm_num

/-- Every face normal of the box points outward, for all positive dimensions. -/
theorem box_normals_outward (w h d : F) (hw : 0 < w) (hh : 0 < h) (hd : 0 < d) :
    ∀ f ∈ Gen.boxFaces, 0 < boxOutward w h d f := by
  intro f hf
  rw [boxOutward_scale, boxOutward_unit f hf]
  positivity

end BoxNormals

theorem consistentlyOriented_of_nodup {faces : List Face} (h : (naiveEdges faces).Nodup) :
    consistentlyOriented faces = true := by
  simp only [consistentlyOriented, List.all_eq_true, beq_iff_eq]
  exact fun e he => List.count_eq_one_of_mem h he

theorem succ_mod_cases {i n : Nat} (h : i < n) :
    ((i + 1) % n = i + 1 ∧ i + 1 < n) ∨ ((i + 1) % n = 0 ∧ i + 1 = n) := by
  rcases Nat.lt_or_ge (i + 1) n with h' | h'
  · exact Or.inl ⟨Nat.mod_eq_of_lt h', h'⟩
  · obtain rfl : i + 1 = n := by omega
    exact Or.inr ⟨Nat.mod_self _, rfl⟩

/-- `create_cylinder` (formulas regenerated from the source) is consistently wound from 2 steps on; with a single
    step the two rim edges of the quad coincide. -/
theorem cylinder_consistent (n : Nat) (hn : 2 ≤ n) : consistentlyOriented (cylinderFaces n) = true := by
  apply consistentlyOriented_of_nodup
  unfold naiveEdges cylinderFaces
  rw [List.flatMap_assoc, List.nodup_flatMap]
  -- the six directed edges of the step from position `i` to its successor `k`
  have edges : ∀ i k, (Gen.cylinderQuad i k).flatMap faceDirEdges =
      [(k * 2 + 1, i * 2 + 1), (i * 2 + 1, i * 2), (i * 2, k * 2 + 1),
       (k * 2, k * 2 + 1), (k * 2 + 1, i * 2), (i * 2, k * 2)] := fun _ _ => rfl
  -- in both parts (one step; two steps): name the successors, and leave the disequalities of vertex numbers to `omega`
  constructor
  · intro i hi
    have hk := succ_mod_cases (List.mem_range.mp hi)
    generalize (i + 1) % n = k at hk ⊢
    simp only [edges, List.nodup_cons, List.mem_cons, Prod.mk.injEq, List.not_mem_nil, or_false, not_or,
      List.nodup_nil, and_true, not_false_eq_true]
    omega
  · refine (List.pairwise_lt_range (n := n)).imp_of_mem ?_
    intro i j hi hj hij
    have hki := succ_mod_cases (List.mem_range.mp hi)
    have hkj := succ_mod_cases (List.mem_range.mp hj)
    simp only [Function.onFun, edges, List.disjoint_cons_left, List.disjoint_nil_left, List.mem_cons,
      Prod.mk.injEq, List.not_mem_nil, or_false, not_or, and_true]
    generalize (i + 1) % n = ki at hki ⊢
    generalize (j + 1) % n = kj at hkj ⊢
    omega

theorem cylinder_consistent_3_to_16 :
    (List.range 14).all (fun k => consistentlyOriented (cylinderFaces (k + 3))) = true :=
  List.all_eq_true.mpr fun k _ => cylinder_consistent (k + 3) (by omega)

/-- Regression witness (D5): the pre-fix formulas used the directed edge between the two rims twice. -/
theorem cylinder_prefix_inconsistent : consistentlyOriented (cylinderFaces_prefix 3) = false := by decide

end C12
