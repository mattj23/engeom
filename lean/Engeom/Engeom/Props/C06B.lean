import Engeom.Props.C06
/-
  C06 (continued) — completeness of the bounding-volume traversal written in polyline2.rs.

  Assumption (parry's QBVH invariant, stated as `BoxedT` / `BoxedF`): the box attached to a child contains both
  end points of every edge stored below that child.  Under it the traversal with the engeom-written
  pruning test collects every stored edge `i` that `rayEdge` finds crossed at a parameter `|t| ≤ big`, hence for such `i`
  and `t` the list before sorting and merging holds `(t, i)` exactly when `rayEdge` gives `t` on edge `i`
  (`traversalHits_iff`); after sorting and merging every answer is still such a hit.  Nothing here compares the result with
  the model's `naiveIntersections`.
-/
namespace C06

def InBox (mn mx p : V2 ℝ) : Prop := mn.x ≤ p.x ∧ p.x ≤ mx.x ∧ mn.y ≤ p.y ∧ p.y ≤ mx.y

def EdgeInBox (verts : List (V2 ℝ)) (mn mx : V2 ℝ) (i : Nat) : Prop :=
  InBox mn mx (verts.getD i ⟨0, 0⟩) ∧ InBox mn mx (verts.getD (i + 1) ⟨0, 0⟩)

mutual
def BoxedT (verts : List (V2 ℝ)) : BvhTree ℝ → Prop
  | .leaf _ => True
  | .node cs => BoxedF verts cs
def BoxedF (verts : List (V2 ℝ)) : BvhForest ℝ → Prop
  | .nil => True
  | .cons mn mx t r => (∀ i ∈ t.leaves, EdgeInBox verts mn mx i) ∧ BoxedT verts t ∧ BoxedF verts r
end

theorem inBoxB_iff (mn mx p : V2 ℝ) : inBoxB mn mx p = true ↔ InBox mn mx p := by
  simp [inBoxB, InBox, and_assoc]

mutual
/-- `boxedB` is what the driver evaluates on parry's real tree: it implies the assumed invariant -/
theorem boxedB_T (verts : List (V2 ℝ)) : ∀ t : BvhTree ℝ, t.boxedB verts = true → BoxedT verts t
  | .leaf _, _ => trivial
  | .node cs, h => boxedB_F verts cs h
theorem boxedB_F (verts : List (V2 ℝ)) : ∀ f : BvhForest ℝ, f.boxedB verts = true → BoxedF verts f
  | .nil, _ => trivial
  | .cons mn mx t r, h => by
    simp only [BvhForest.boxedB, Bool.and_eq_true, List.all_eq_true, inBoxB_iff] at h
    exact ⟨h.1.1, boxedB_T verts t h.1.2, boxedB_F verts r h.2⟩
end

theorem inBox_convex {mn mx a b : V2 ℝ} {s : ℝ} (h0 : 0 ≤ s) (h1 : s ≤ 1)
    (ha : InBox mn mx a) (hb : InBox mn mx b) : InBox mn mx (V2.add a (V2.smul s (V2.sub b a))) := by
  obtain ⟨a1, a2, a3, a4⟩ := ha
  obtain ⟨b1, b2, b3, b4⟩ := hb
  obtain ⟨x1, x2⟩ := lerp_mem_Icc h0 h1 ⟨a1, a2⟩ ⟨b1, b2⟩
  obtain ⟨y1, y2⟩ := lerp_mem_Icc h0 h1 ⟨a3, a4⟩ ⟨b3, b4⟩
  exact ⟨x1, x2, y1, y2⟩

theorem test_keeps_box_of_hit {big : ℝ} {verts : List (V2 ℝ)} {o d mn mx : V2 ℝ} {i : Nat} {t : ℝ}
    (hb : EdgeInBox verts mn mx i)
    (hh : rayEdge o d (verts.getD i ⟨0, 0⟩) (verts.getD (i + 1) ⟨0, 0⟩) = some t) (ht : |t| ≤ big) :
    castRaySlab big mn mx o d = true := by
  obtain ⟨s, h0, h1, hp⟩ := rayEdge_on_edge hh
  have hin := inBox_convex h0 h1 hb.1 hb.2
  rw [← hp] at hin
  exact slab_complete big mn mx o d t ht ⟨hin.1, hin.2.1⟩ hin.2.2

theorem mem_visit_cons {test : V2 ℝ → V2 ℝ → Bool} {mn mx : V2 ℝ} {c : BvhTree ℝ} {r : BvhForest ℝ} {i : Nat} :
    i ∈ (BvhForest.cons mn mx c r).visit test ↔ (test mn mx = true ∧ i ∈ c.visit test) ∨ i ∈ r.visit test := by
  cases c <;> by_cases h : test mn mx = true <;> simp [BvhForest.visit, BvhTree.visit, h, or_comm]

mutual
/-- No crossed edge is lost by the traversal. -/
theorem visitT_complete (big : ℝ) (verts : List (V2 ℝ)) (o d : V2 ℝ) (i : Nat) (t : ℝ)
    (hh : rayEdge o d (verts.getD i ⟨0, 0⟩) (verts.getD (i + 1) ⟨0, 0⟩) = some t) (ht : |t| ≤ big) :
    ∀ tree : BvhTree ℝ, BoxedT verts tree → i ∈ tree.leaves →
      i ∈ tree.visit (fun mn mx => castRaySlab big mn mx o d)
  | .leaf _, _, hi => hi
  | .node cs, hb, hi => visitF_complete big verts o d i t hh ht cs hb hi
theorem visitF_complete (big : ℝ) (verts : List (V2 ℝ)) (o d : V2 ℝ) (i : Nat) (t : ℝ)
    (hh : rayEdge o d (verts.getD i ⟨0, 0⟩) (verts.getD (i + 1) ⟨0, 0⟩) = some t) (ht : |t| ≤ big) :
    ∀ f : BvhForest ℝ, BoxedF verts f → i ∈ f.leaves →
      i ∈ f.visit (fun mn mx => castRaySlab big mn mx o d)
  | .nil, _, hi => absurd hi List.not_mem_nil
  | .cons mn mx c r, ⟨hbox, hc, hr⟩, hi => by
    rw [mem_visit_cons]
    rcases List.mem_append.mp hi with hi | hi
    · exact Or.inl ⟨test_keeps_box_of_hit (hbox i hi) hh ht,
        visitT_complete big verts o d i t hh ht c hc hi⟩
    · exact Or.inr (visitF_complete big verts o d i t hh ht r hr hi)
end

mutual
/-- The traversal visits leaves only (it invents no candidate). -/
theorem visitT_sub (test : V2 ℝ → V2 ℝ → Bool) : ∀ tree : BvhTree ℝ, ∀ i ∈ tree.visit test, i ∈ tree.leaves
  | .leaf _, _, hi => hi
  | .node cs, i, hi => visitF_sub test cs i hi
theorem visitF_sub (test : V2 ℝ → V2 ℝ → Bool) : ∀ f : BvhForest ℝ, ∀ i ∈ f.visit test, i ∈ f.leaves
  | .nil, _, hi => absurd hi List.not_mem_nil
  | .cons mn mx c r, i, hi => by
    rcases mem_visit_cons.mp hi with ⟨_, hi⟩ | hi
    · exact List.mem_append_left _ (visitT_sub test c i hi)
    · exact List.mem_append_right _ (visitF_sub test r i hi)
end

theorem edgeHit_eq_some_iff {verts : List (V2 ℝ)} {o d : V2 ℝ} {j i : Nat} {t : ℝ} :
    edgeHit verts o d j = some (t, i) ↔
      (j = i ∧ rayEdge o d (verts.getD j ⟨0, 0⟩) (verts.getD (j + 1) ⟨0, 0⟩) = some t) := by
  unfold edgeHit
  cases rayEdge o d (verts.getD j ⟨0, 0⟩) (verts.getD (j + 1) ⟨0, 0⟩) with
  | none => simp
  | some s => simp only [Option.some.injEq, Prod.mk.injEq]; exact and_comm

theorem mem_traversalHits {big : ℝ} {verts : List (V2 ℝ)} {o d : V2 ℝ} {tree : BvhTree ℝ} {t : ℝ} {i : Nat} :
    (t, i) ∈ traversalHits big verts o d tree ↔
      i ∈ tree.visit (fun mn mx => castRaySlab big mn mx o d) ∧
      rayEdge o d (verts.getD i ⟨0, 0⟩) (verts.getD (i + 1) ⟨0, 0⟩) = some t := by
  unfold traversalHits
  rw [List.mem_filterMap]
  constructor
  · rintro ⟨j, hj, hje⟩
    obtain ⟨rfl, hr⟩ := edgeHit_eq_some_iff.mp hje
    exact ⟨hj, hr⟩
  · rintro ⟨hi, hr⟩
    exact ⟨i, hi, edgeHit_eq_some_iff.mpr ⟨rfl, hr⟩⟩

/-- `|t| ≤ big`: the slab test starts from the bracket `[-big, big]`. -/
theorem traversalHits_iff (big : ℝ) (verts : List (V2 ℝ)) (o d : V2 ℝ) (tree : BvhTree ℝ)
    (hb : BoxedT verts tree) (t : ℝ) (i : Nat) (hi : i ∈ tree.leaves) (ht : |t| ≤ big) :
    (t, i) ∈ traversalHits big verts o d tree ↔
      rayEdge o d (verts.getD i ⟨0, 0⟩) (verts.getD (i + 1) ⟨0, 0⟩) = some t := by
  rw [mem_traversalHits]
  exact ⟨fun h => h.2, fun hh => ⟨visitT_complete big verts o d i t hh ht tree hb hi, hh⟩⟩

theorem dedupByT_go_sublist (tol : ℝ) (last : ℝ × Nat) (r : List (ℝ × Nat)) : (dedupByT.go tol last r).Sublist r := by
  fun_induction dedupByT.go tol last r with
  | case1 => exact .slnil
  | case2 last b r _ ih => exact ih.cons b  -- `b` is within `tol` of `last`: dropped
  | case3 last b r _ ih => exact ih.cons_cons b  -- `b` is kept

theorem dedupByT_sublist (tol : ℝ) : ∀ l : List (ℝ × Nat), (dedupByT tol l).Sublist l
  | [] => .slnil
  | a :: r => (dedupByT_go_sublist tol a r).cons_cons a

theorem polylineIntersections_sound (big : ℝ) (verts : List (V2 ℝ)) (o d : V2 ℝ) (tree : BvhTree ℝ)
    (t : ℝ) (i : Nat) (h : (t, i) ∈ polylineIntersections big verts o d tree) :
    rayEdge o d (verts.getD i ⟨0, 0⟩) (verts.getD (i + 1) ⟨0, 0⟩) = some t := by
  unfold polylineIntersections at h
  exact (mem_traversalHits.mp ((sortByT_perm _).mem_iff.mp ((dedupByT_sublist _ _).subset h))).2

/-! the assumption can be met -/
example : BoxedT [⟨0, 0⟩, ⟨1, 0⟩, ⟨1, 1⟩]
    (.node (.cons ⟨0, 0⟩ ⟨1, 0⟩ (.leaf 0) (.cons ⟨1, 0⟩ ⟨1, 1⟩ (.leaf 1) .nil))) := by
  simp only [BoxedT, BoxedF, BvhTree.leaves, List.mem_singleton, forall_eq, EdgeInBox, InBox]
  norm_num

end C06
