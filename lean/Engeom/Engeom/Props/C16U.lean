import Engeom.Props.C16
import Engeom.Props.C16T
/-
  C16 — the theorems of Props/C16 stated about the REGENERATED code (over ℝ): the direction `d` chosen by
  `point_curve2_deviation` / `Mesh::measure_point_deviation` with the value `v = d · (measured − reference)` the code
  reports, the indices cached by `SurfaceDeviationSet::new`, the length guards of `PointCloud::try_new`.  The
  equalities of Props/C16T are definitional, so the model-side proofs apply as they stand.
-/
namespace C16U

theorem curve_deviation_far (p0 n q : V2 ℝ) (hfar : devTolCurve ≤ V2.norm (V2.sub q p0)) :
    let d := GenRs.curve_dev_normal (V2.sub q p0) ⟨p0, n⟩
    let v := V2.dot (V2.sub q p0) d
    |v| = V2.norm (V2.sub q p0) ∧ (V2.dot (V2.sub q p0) n < 0 → v < 0) ∧ (0 ≤ V2.dot (V2.sub q p0) n → 0 < v) ∧
    V2.add p0 (V2.smul v d) = q :=
  C16.curve_dev_far p0 n q hfar

theorem curve_deviation_near (p0 n q : V2 ℝ) (hnear : V2.norm (V2.sub q p0) < devTolCurve) :
    GenRs.curve_dev_normal (V2.sub q p0) ⟨p0, n⟩ = n :=
  congrArg Prod.fst (C16.curve_dev_near p0 n q hnear)

theorem mesh_deviation_plane (c n q : V3 ℝ) : GenRs.mesh_dev_dir q ⟨c, n⟩ .toPlane = n := rfl

theorem mesh_deviation_point_far (c n q : V3 ℝ) (hfar : devTolMesh ≤ V3.norm (V3.sub q c)) :
    let d := GenRs.mesh_dev_dir q ⟨c, n⟩ .toPoint
    let v := V3.dot d (V3.sub q c)
    |v| = V3.norm (V3.sub q c) ∧ (0 < V3.dot n (V3.sub q c) → 0 < v) ∧ (V3.dot n (V3.sub q c) ≤ 0 → v < 0) ∧
    V3.add c (V3.smul v d) = q :=
  C16.mesh_dev_point_far c n q hfar

/-- the indices cached by the regenerated `SurfaceDeviationSet::new` satisfy the invariant of the set
    (in range, pointing at a maximal / minimal deviation) -/
theorem devset_new_invariant (vs : List ℝ) :
    C16.DevSetInv (⟨vs, (GenRs.devset_new vs).1, (GenRs.devset_new vs).2⟩ : DevSet ℝ) :=
  C16.devset_new_inv vs

/-- a normals (colours) channel that is present is accepted exactly when it has one entry per point: an EMPTY channel
    beside a non-empty point list is refused like any other mismatch, so an accepted cloud has channels of the
    length of its points -/
theorem cloud_channel_accepted_iff_same_length (channel_len points_len : Nat) :
    (GenRs.cloud_normals_refused channel_len points_len = false ↔ channel_len = points_len) ∧
    (GenRs.cloud_colors_refused channel_len points_len = false ↔ channel_len = points_len) := by
  unfold GenRs.cloud_normals_refused GenRs.cloud_colors_refused
  simp

theorem cloud_empty_channel_refused (points_len : Nat) (h : 0 < points_len) :
    GenRs.cloud_normals_refused 0 points_len = true ∧ GenRs.cloud_colors_refused 0 points_len = true :=
  ⟨decide_eq_true (Nat.ne_of_lt h), decide_eq_true (Nat.ne_of_lt h)⟩

end C16U
