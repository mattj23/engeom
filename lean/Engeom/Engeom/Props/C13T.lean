import Engeom.Generated.RsC13
/-
  C13 — translation tie.  Regenerated from `Mesh::plane_crossing_segments` (src/geom3/mesh/queries.rs)
  on every run: the table of signed distances with its snap to zero (`|d| <= eps`), and the section
  point on a crossed edge (`pi + (pj - pi) * (di / (di - dj))`).  They are the model's `distOf` and the
  edge case of `keyPoint`, for every scalar type.
-/
namespace C13T
set_option linter.unusedSectionVars false
variable {α : Type} [Add α] [Sub α] [Mul α] [Div α] [Neg α] [LT α] [LE α]
  [DecidableLT α] [DecidableLE α] [OfNat α 0] [OfNat α 1] [OfNat α 2] [Scalar α]

theorem section_dist_eq (P : Plane3 α) (eps : α) (verts : List (V3 α)) :
    GenRs.section_dist verts P eps = distOf P eps verts := rfl

theorem section_edge_point_eq (verts : List (V3 α)) (dist : List α) (i j : Nat) :
    keyPoint verts dist (.edge i j)
      = GenRs.section_edge_point (verts.getD i ⟨0, 0, 0⟩) (verts.getD j ⟨0, 0, 0⟩) (dist.getD i 0) (dist.getD j 0) := rfl
end C13T
