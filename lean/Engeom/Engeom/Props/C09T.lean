import Engeom.Generated.RsC09
/-
  C09 — translation tie.  The whole of `Series1::best_fit_line` (src/func1/series1.rs: its five iterator sums and the
  closed form for slope and intercept) is the model's `bestFitLine`, whose closed form Props/C09 proves to solve the
  normal equations; the evaluation loop of `Polynomial::f` (src/func1/polynomial.rs) is the fold of `c[i] * x^i`
  over `0 .. K`.
-/
namespace C09T
set_option linter.unusedSectionVars false
variable {α : Type} [Add α] [Sub α] [Mul α] [Div α] [Neg α] [LT α] [LE α]
  [DecidableLT α] [DecidableLE α] [OfNat α 0] [OfNat α 1] [OfNat α 2] [Scalar α] [Inhabited α]

/-- the cast `len as f64` of the translation -/
def ofNatS (i : Nat) : α := Scalar.ofRat i 1

theorem best_fit_line_eq (s : SeriesXY α) : GenRs.best_fit_line s = bestFitLine ofNatS s.x s.y := by
  unfold GenRs.best_fit_line bestFitLine ofNatS
  rw [List.map_zip_eq_zipWith]
  rfl

/-- Not `polyEval`, which folds over the list `c`: the regenerated loop runs over `0 .. K`, the const generic `K` an
    argument.  The two agree for `K = p.c.length`; no theorem states it. -/
theorem polynomial_f_eq (p : PolyC α) (x : α) (K : Nat) :
    GenRs.polynomial_f p x K = (List.range K).foldl (fun y i => y + p.c.getD i default * spow x i) 0 := rfl
end C09T
