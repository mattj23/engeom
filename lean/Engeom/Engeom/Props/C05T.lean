import Engeom.Generated.RsC05
import Engeom.Generated.RsC05_3d
import Engeom.Lemmas.Loops
/-
  C05 — translation tie.  `resample_by_count` and `resample_by_spacing` of src/geom2/curve2.rs and src/geom3/curve3.rs
  and the counter loop of `fill_gaps` (src/common/points.rs), their loops included, are the model's position lists
  fed to `Curve.resampleAt`, and the model's `gapCount`: for every scalar type, Float included.  The 3-D versions
  `unwrap` the result, the model keeps the `Option`.
-/
namespace C05T
set_option linter.unusedSectionVars false
variable {α : Type} [Add α] [Sub α] [Mul α] [Div α] [Neg α] [LT α] [LE α]
  [DecidableLT α] [DecidableLE α] [OfNat α 0] [OfNat α 1] [OfNat α 2] [Scalar α]
  [Inhabited α] [Inhabited (V2 α)] [Inhabited (V3 α)]

/-- the cast `i as f64` of the translation -/
def ofNatS (i : Nat) : α := Scalar.ofRat i 1

theorem resample_by_count_eq (c : Curve α (V2 α)) (n : Nat) :
    GenRs.resample_by_count2 c n = c.resampleAt (positionsByCount ofNatS c.length n) := by
  unfold GenRs.resample_by_count2 positionsByCount ofNatS
  simp only [Loops.foldl_push, List.nil_append]

theorem while_positions_eq (len s : α) (fuel : Nat) (cur : α) (acc : List α) :
    (whileFuel fuel (fun (st : List α × α) => decide (st.2 < len))
        (fun st => (st.1 ++ [st.2], st.2 + s)) (acc, cur)).1
      = positionsBySpacing len s fuel cur acc :=
  Loops.whileFuel_eq_rec _ _ Prod.fst (fun k st => positionsBySpacing len s k st.2 st.1)
    (fun _ => rfl) (fun k st => by simp only [positionsBySpacing, decide_eq_true_eq]) fuel (acc, cur)

theorem centred_eq (len : α) (ps : List α) :
    centred len ps = ps.map (fun p => p + (len - ps.getLast?.getD default) / 2) := by
  unfold centred
  cases h : ps.getLast? with
  | some last => rfl
  | none => rw [List.getLast?_eq_none_iff.mp h]; rfl

theorem resample_by_spacing_eq (c : Curve α (V2 α)) (s : α) (fuel : Nat) :
    GenRs.resample_by_spacing2 c s fuel
      = c.resampleAt (centred c.length (positionsBySpacing c.length s fuel 0 [])) := by
  unfold GenRs.resample_by_spacing2
  rw [centred_eq, ← while_positions_eq]

theorem resample_by_count3_eq (c : Curve α (V3 α)) (n : Nat) :
    GenRs.resample_by_count3 c n = c.resampleAt (positionsByCount ofNatS c.length n) := by
  unfold GenRs.resample_by_count3 positionsByCount ofNatS
  simp only [Loops.foldl_push, List.nil_append]

theorem resample_by_spacing3_eq (c : Curve α (V3 α)) (s : α) (fuel : Nat) :
    GenRs.resample_by_spacing3 c s fuel
      = c.resampleAt (centred c.length (positionsBySpacing c.length s fuel 0 [])) := by
  unfold GenRs.resample_by_spacing3
  rw [centred_eq, ← while_positions_eq]

theorem fill_gaps_count_eq (d maxd : α) (fuel : Nat) :
    GenRs.fill_gaps_count d maxd fuel = gapCount ofNatS d maxd fuel 1 :=
  Loops.whileFuel_eq_rec _ _ id (gapCount ofNatS d maxd) (fun _ => rfl)
    (fun k n => by simp only [gapCount, decide_eq_true_eq, id]; rfl) fuel 1
end C05T
