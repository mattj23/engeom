import Engeom.Model.Flatten
import Engeom.Lemmas.RealScalar
import Engeom.Props.C03
import Mathlib.Tactic.Linarith
import Mathlib.Tactic.Ring
import Mathlib.Tactic.FieldSimp
/-
  C20 — Conformal flattening is an isometry on planar disks and never folds them.
  PARTIAL: proved are (1) that the whole pipeline is a function of connectivity, boundary loop and
  edge lengths, hence unchanged when the input is moved rigidly; (2) the acceptance test; (3) the
  linear precision of the cotangent weights on planar triangles, which is why a planar disk is
  reproduced.  The end-to-end isometry and the absence of folds are decided per case by the oracle.
-/

namespace C20

theorem lengthOf_map (f : V3 ℝ → V3 ℝ) (hf : ∀ a b, vdist (f a) (f b) = vdist a b) (verts : List (V3 ℝ)) :
    lengthOf (verts.map f) = lengthOf verts := by
  funext i j
  unfold lengthOf
  rw [List.getElem?_map, List.getElem?_map]
  cases verts[i]? with
  | none => rfl
  | some a =>
    cases verts[j]? with
    | none => rfl
    | some b => exact hf a b

/-- two meshes with the same connectivity and the same edge lengths flatten identically (by the definition of `flatten`) -/
theorem flatten_depends_on_lengths (v w : List (V3 ℝ)) (faces : List (Nat × Nat × Nat)) (bound : List Nat)
    (hl : v.length = w.length) (h : lengthOf v = lengthOf w) : flatten v faces bound = flatten w faces bound := by
  unfold flatten; rw [h, hl]

/-- Rigid motion of the input leaves the flattening unchanged (exactly, over the reals).  The MODEL's pipeline is written
    as a function of the edge-length accessor (the definition of `flatten`, Model/Flatten), so this is `lengthOf_map`
    carried through that definition; that the Rust reads coordinates through edge lengths only is what the
    correspondence run compares, not what is proved here. -/
theorem flatten_rigid_invariant (T : Iso3 ℝ) (hT : C03.IsRot3 T) (verts : List (V3 ℝ))
    (faces : List (Nat × Nat × Nat)) (bound : List Nat) :
    flatten (verts.map T.apply) faces bound = flatten verts faces bound :=
  flatten_depends_on_lengths _ _ faces bound (List.length_map _) (lengthOf_map _ (C03.dist_apply T hT) verts)

theorem acceptsDisk_iff (nLoops nPatches nVert nEdges nFaces : Nat) :
    acceptsDisk nLoops nPatches nVert nEdges nFaces = true ↔
      nLoops = 1 ∧ nPatches = 1 ∧ nVert + nFaces = nEdges + 1 := by
  unfold acceptsDisk
  simp [Bool.and_eq_true, and_assoc]

/-- a closed surface (no loop), an annulus (two loops), a punctured torus (χ = −1) and a disk with
    an extra closed component (two pieces) are all rejected -/
example : acceptsDisk 0 1 8 18 12 = false ∧ acceptsDisk 2 1 16 40 24 = false ∧
    acceptsDisk 1 1 20 59 38 = false ∧ acceptsDisk 1 2 24 51 30 = false := by decide

/-- the quarter turn -/
def J (v : V2 ℝ) : V2 ℝ := ⟨-v.y, v.x⟩

theorem cross_cyclic (p q r : V2 ℝ) :
    V2.cross (V2.sub r q) (V2.sub p q) = V2.cross (V2.sub q p) (V2.sub r p) := by
  simp only [V2.cross, V2.sub]; ring

/-- The contribution of a non-degenerate planar face to the cotangent Laplacian of ANY linear function at `p0` is a
    boundary term of the face. -/
theorem cot_triangle_identity (p0 p1 p2 : V2 ℝ)
    (h : V2.cross (V2.sub p1 p0) (V2.sub p2 p0) ≠ 0) :
    V2.add (V2.smul (cotAt p2 p0 p1) (V2.sub p0 p1)) (V2.smul (cotAt p1 p2 p0) (V2.sub p0 p2)) =
      J (V2.sub p2 p1) := by
  unfold cotAt J
  rw [← cross_cyclic p2 p0 p1, cross_cyclic p0 p1 p2]
  simp only [V2.add, V2.smul, V2.mk.injEq, div_mul_eq_mul_div, ← add_div, div_eq_iff h]
  simp only [V2.sub, V2.dot, V2.cross]
  constructor <;> ring

/-- sum of the quarter-turned link edges of a closed fan; `first` closes the polygon -/
def linkSum : List (V2 ℝ) → V2 ℝ → V2 ℝ
  | [], _ => ⟨0, 0⟩
  | [q], first => J (V2.sub first q)
  | q :: r :: t, first => V2.add (J (V2.sub r q)) (linkSum (r :: t) first)

theorem J_add (a b : V2 ℝ) : V2.add (J a) (J b) = J (V2.add a b) := by
  ext; exacts [(neg_add _ _).symm, rfl]

theorem linkSum_eq (l : List (V2 ℝ)) (first q : V2 ℝ) : linkSum (q :: l) first = J (V2.sub first q) := by
  induction l generalizing q with
  | nil => rfl
  | cons r t ih =>
    show V2.add (J (V2.sub r q)) (linkSum (r :: t) first) = _
    -- `J` is additive and the differences telescope
    rw [ih r, J_add]
    congr 1
    ext <;> exact sub_add_sub_cancel' ..

/-- Around an interior vertex the boundary terms of the faces sum to zero.  Taken face by face with
    `cot_triangle_identity` this is why the cotangent Laplacian of a linear function vanishes there, so that a planar
    layout is reproduced; no theorem here puts the two together or mentions the model's `cotanLaplacian`. -/
theorem closed_fan_sum_zero (q : V2 ℝ) (l : List (V2 ℝ)) : linkSum (q :: l) q = ⟨0, 0⟩ := by
  rw [linkSum_eq]
  simp [J, V2.sub]

theorem leg_le_hyp {d k n : ℝ} (hn : 0 ≤ n) (h : d * d + k * k = n * n) : -n ≤ d ∧ d ≤ n :=
  abs_le_of_sq_le_sq' (by rw [sq, sq, ← h]; exact le_add_of_nonneg_right (mul_self_nonneg k)) hn

/-- a right triangle with legs `d` (signed), `k` and hypotenuse `n`; `cotOf` is `1 / tan`, as the code computes it -/
theorem cotOf_arccos_div {d k n : ℝ} (hk : 0 < k) (hn : 0 < n) (h : d * d + k * k = n * n) :
    cotOf (Real.arccos (d / n)) = d / k := by
  have hd := leg_le_hyp hn.le h
  have hsin : 1 - (d / n) ^ 2 = (k / n) ^ 2 := by field_simp; linarith
  show 1 / (Real.sin (Real.arccos (d / n)) / Real.cos (Real.arccos (d / n))) = _
  rw [Real.sin_arccos, hsin, Real.sqrt_sq (div_pos hk hn).le,
    Real.cos_arccos ((le_div_iff₀ hn).2 (by linarith)) ((div_le_one hn).2 hd.2),
    one_div_div, div_div_div_cancel_right₀ hn.ne']

/-- `A B C` are the squared side lengths of a triangle, `d` the dot and `k` the cross product of the two edges leaving
    the corner opposite `A` (`hd`: law of cosines, `hL`: Lagrange's identity).  The triangle inequality in the
    conclusion rules out the degenerate branches of `faceAngles`. -/
theorem cot_lawOfCosines {A B C d k : ℝ} (hA : 0 ≤ A) (hB : 0 ≤ B) (hC : 0 ≤ C) (hk : 0 < k)
    (hd : B + C - A = 2 * d) (hL : d * d + k * k = C * B) :
    √A ≤ √B + √C ∧ 0 < √B ∧ 0 < √C ∧
      cotOf (Real.arccos ((√B * √B + √C * √C - √A * √A) / (2 * √B * √C))) = d / k := by
  have hCB : 0 < C * B := hL ▸ add_pos_of_nonneg_of_pos (mul_self_nonneg d) (mul_pos hk hk)
  have hb : 0 < √B := Real.sqrt_pos.2 (pos_of_mul_pos_right hCB hC)
  have hc : 0 < √C := Real.sqrt_pos.2 (pos_of_mul_pos_left hCB hB)
  have hn : d * d + k * k = (√B * √C) * (√B * √C) := by
    rw [mul_mul_mul_comm, Real.mul_self_sqrt hB, Real.mul_self_sqrt hC, hL, mul_comm]
  refine ⟨?_, hb, hc, ?_⟩
  · -- `d² ≤ (bc)²` gives `−bc ≤ d`, that is `a² = b² + c² − 2d ≤ (b + c)²`
    have := (leg_le_hyp (mul_pos hb hc).le hn).1
    rw [Real.sqrt_le_left (add_pos hb hc).le, add_sq, Real.sq_sqrt hB, Real.sq_sqrt hC]
    linarith
  · rw [Real.mul_self_sqrt hA, Real.mul_self_sqrt hB, Real.mul_self_sqrt hC, hd, mul_assoc,
      mul_div_mul_left _ _ two_ne_zero]
    exact cotOf_arccos_div hk (mul_pos hb hc) hn

/-- the numerator of the law of cosines is twice the dot product: `b² + c² − a²` with `a = |q − r|`, `b = |r − p|`,
    `c = |q − p|` is `2 (q − p)·(r − p)` (so the quotient by `2bc` is the normalised dot product) -/
theorem law_of_cosines_numerator (p q r : V2 ℝ) :
    V2.normSq (V2.sub r p) + V2.normSq (V2.sub q p) - V2.normSq (V2.sub q r) =
      2 * V2.dot (V2.sub q p) (V2.sub r p) := by
  simp only [V2.normSq, V2.dot, V2.sub]; ring

end C20
