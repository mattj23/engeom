import Engeom.Generated.RsC15
import Engeom.Lemmas.Loops
import Mathlib.Order.Basic
import Mathlib.Order.Defs.LinearOrder
/-
  C15 — translation tie, with the theorem stated about the REGENERATED code.
  `farthest_pair_indices` (src/geom2/hull.rs: two nested `for` loops keeping the first strict maximum of the distance
  and its index pair) is the scan `farthestScan` of the model at the distance between hull vertices (`rfl`).
  `farthestScan_maximal`: for every measure `D` with `0 ≤ D 0 0` (as a distance has), over any linear order.
-/
namespace C15T
set_option linter.unusedSectionVars false

section Tie
variable {α : Type} [Add α] [Sub α] [Mul α] [Div α] [Neg α] [LT α] [LE α]
  [DecidableLT α] [DecidableLE α] [OfNat α 0] [OfNat α 1] [OfNat α 2] [Scalar α] [Inhabited α] [Inhabited (V2 α)]

theorem farthest_pair_indices_eq (hull : List (V2 α)) :
    GenRs.farthest_pair_indices hull
      = (farthestScan (fun i j => dist2 (hull.getD i default) (hull.getD j default)) hull.length).2 := rfl
end Tie

section Max
variable {α : Type} [LinearOrder α] [OfNat α 0]

/-- the two nested loops are one scan over the pairs `i < j < n` in lexicographic order -/
theorem farthestScan_eq_foldl (D : Nat → Nat → α) (n : Nat) :
    farthestScan D n =
      ((List.range n).flatMap fun i => (List.range' (i + 1) (n - (i + 1))).map (Prod.mk i)).foldl
        (fun st ij => if st.1 < D ij.1 ij.2 then (D ij.1 ij.2, ij) else st) (0, (0, 0)) := by
  simp only [farthestScan, List.foldl_flatMap, List.foldl_map]

theorem farthestScan_maximal (D : Nat → Nat → α) (n : Nat) (h00 : 0 ≤ D 0 0) {i j : Nat} (hij : i < j) (hjn : j < n) :
    D i j ≤ D (farthestScan D n).2.1 (farthestScan D n).2.2 := by
  rw [farthestScan_eq_foldl]
  obtain ⟨_, hall, hrec⟩ := Loops.foldl_first_max (fun ij : Nat × Nat => D ij.1 ij.2) (fun ij => ij)
    ((List.range n).flatMap fun i => (List.range' (i + 1) (n - (i + 1))).map (Prod.mk i)) (0, (0, 0))
  have hle := hall (i, j) (List.mem_flatMap.mpr ⟨i, List.mem_range.mpr (Nat.lt_trans hij hjn),
    List.mem_map.mpr ⟨j, List.mem_range'_1.mpr (by omega), rfl⟩⟩)
  -- the state records at most the measure of its own pair: initially by `0 ≤ D 0 0`, afterwards by construction
  rcases hrec with e | ⟨x, _, e⟩ <;> rw [e] at hle ⊢
  · exact hle.trans h00
  · exact hle
end Max

/-- the regenerated `farthest_pair_indices` returns a farthest pair of hull vertices (over ℝ or any
    linearly ordered scalar type on which `dist2 p p = 0`) -/
theorem farthest_pair_is_diameter {α : Type} [Add α] [Sub α] [Mul α] [Div α] [Neg α] [LinearOrder α]
    [OfNat α 0] [OfNat α 1] [OfNat α 2] [Scalar α] [Inhabited α] [Inhabited (V2 α)]
    (hull : List (V2 α)) (hself : dist2 (hull.getD 0 default) (hull.getD 0 default) = 0)
    (i j : Nat) (hij : i < j) (hj : j < hull.length) :
    dist2 (hull.getD i default) (hull.getD j default)
      ≤ dist2 (hull.getD (GenRs.farthest_pair_indices hull).1 default)
              (hull.getD (GenRs.farthest_pair_indices hull).2 default) := by
  rw [farthest_pair_indices_eq]
  exact farthestScan_maximal (fun i j => dist2 (hull.getD i default) (hull.getD j default)) hull.length hself.ge hij hj
end C15T
