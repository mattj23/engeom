import Engeom.Model.Angles
import Engeom.Lemmas.RealScalar
import Engeom.Lemmas.Basics
import Mathlib.Tactic.LinearCombination
/-
  C18 — Angle normalisation and interval arithmetic are consistent.
  All statements are about the model in Engeom/Model/Angles.lean instantiated at ℝ (angles) or at an
  arbitrary linearly ordered field (scalar intervals); what `fmod` does over ℝ is in Lemmas/RealScalar.lean.
-/

open Real

namespace C18

theorem twoPi_eq : (twoPi : ℝ) = 2 * π := rfl
theorem twoPi_pos : (0 : ℝ) < twoPi := Real.two_pi_pos

/-- the obligation on `ANGLE_TOL` as regenerated from angles.rs: the build fails when the source moves it out of
    `[0, 1e-9]` (only `0 ≤` is used below) -/
theorem angleTol_bounds : (0 : ℝ) ≤ angleTol ∧ (angleTol : ℝ) ≤ 1 / 10 ^ 9 := by
  unfold angleTol
  rw [ofRatR]
  norm_num [Gen.ANGLE_TOL_num, Gen.ANGLE_TOL_den]

/-- `angle_signed_pi` lands in the documented closed range [-π, π]. -/
theorem signedPi_range (x : ℝ) : -π ≤ angleSignedPi x ∧ angleSignedPi x ≤ π := by
  have h := fmodR_abs_lt (x := x) twoPi_pos
  have e1 := piR
  have e2 := twoPi_eq
  have hp := Real.pi_pos
  unfold angleSignedPi
  dsimp only
  split_ifs <;> constructor <;> linarith

theorem signedPi_congr (x : ℝ) : ∃ k : ℤ, angleSignedPi x = x + k * (2 * π) := by
  obtain ⟨k, hk⟩ := exists_fmodR_eq_add_mul x (2 * π)
  unfold angleSignedPi
  dsimp only
  rw [twoPi_eq]
  split_ifs
  · exact ⟨k - 1, by push_cast; linear_combination hk⟩
  · exact ⟨k + 1, by push_cast; linear_combination hk⟩
  · exact ⟨k, hk⟩

/-- in exact arithmetic; the float code can round up to 2π -/
theorem to2pi_range (x : ℝ) : 0 ≤ angleTo2pi x ∧ angleTo2pi x < 2 * π := by
  have h := fmodR_abs_lt (x := x) twoPi_pos
  have e2 := twoPi_eq
  unfold angleTo2pi
  dsimp only
  split_ifs <;> constructor <;> linarith

theorem to2pi_congr (x : ℝ) : ∃ k : ℤ, angleTo2pi x = x + k * (2 * π) := by
  obtain ⟨k, hk⟩ := exists_fmodR_eq_add_mul x (2 * π)
  unfold angleTo2pi
  dsimp only
  rw [twoPi_eq]
  split_ifs
  · exact ⟨k + 1, by push_cast; linear_combination hk⟩
  · exact ⟨k, hk⟩

theorem to2pi_id {x : ℝ} (h0 : 0 ≤ x) (h1 : x < 2 * π) : angleTo2pi x = x := by
  unfold angleTo2pi
  dsimp only
  rw [fmodR_of_lt (y := twoPi) h0 h1, if_neg (not_lt.mpr h0)]

theorem inDirection_range (a b : ℝ) (d : AngleDir) :
    0 ≤ angleInDirection a b d ∧ angleInDirection a b d ≤ 2 * π := by
  have ha := signedPi_range a
  have hb := signedPi_range b
  have e2 := twoPi_eq
  have hp := Real.pi_pos
  unfold angleInDirection
  cases d <;> dsimp only <;> split_ifs <;> constructor <;> linarith

/-- Rotating the first angle by the result, in the stated direction, gives the second (mod 2π). -/
theorem inDirection_rotates (a b : ℝ) (d : AngleDir) :
    ∃ k : ℤ, a + (match d with | .ccw => 1 | .cw => -1) * angleInDirection a b d = b + k * (2 * π) := by
  obtain ⟨ka, hka⟩ := signedPi_congr a
  obtain ⟨kb, hkb⟩ := signedPi_congr b
  unfold angleInDirection
  cases d <;> dsimp only <;> split_ifs
  · exact ⟨kb - ka - 1, by push_cast; rw [twoPi_eq]; linear_combination hkb - hka⟩
  · exact ⟨kb - ka, by push_cast; linear_combination hkb - hka⟩
  · exact ⟨kb - ka + 1, by push_cast; rw [twoPi_eq]; linear_combination hkb - hka⟩
  · exact ⟨kb - ka, by push_cast; linear_combination hkb - hka⟩

theorem inDirection_cw_add_ccw (a b : ℝ) :
    angleInDirection a b .cw + angleInDirection a b .ccw = 2 * π ∨
    (angleInDirection a b .cw = 0 ∧ angleInDirection a b .ccw = 0) := by
  have e2 := twoPi_eq
  unfold angleInDirection
  dsimp only
  rcases lt_trichotomy (angleSignedPi a) (angleSignedPi b) with h | h | h
  · left; rw [if_pos h, if_neg (not_lt.mpr h.le), e2]; ring
  · right; rw [h]; simp
  · left; rw [if_neg (not_lt.mpr h.le), if_pos h, e2]; ring

/-! ### `AngleInterval` (no prefix; the lemmas about the scalar `Interval` further down are `interval_*`) -/

/-- The exact set swept from `start` through `angle`. -/
def Swept (I : AngleInterval ℝ) (a : ℝ) : Prop :=
  ∃ k : ℤ, I.start ≤ a + k * (2 * π) ∧ a + k * (2 * π) ≤ I.start + I.angle

/-- The same set widened by `ANGLE_TOL` at both ends.  `contains` accepts every angle of `Swept` (`contains_complete`)
    and none outside `SweptTol` (`contains_sound`); on the two bands of width `ANGLE_TOL` between them nothing is said. -/
def SweptTol (I : AngleInterval ℝ) (a : ℝ) : Prop :=
  ∃ k : ℤ, I.start - angleTol ≤ a + k * (2 * π) ∧ a + k * (2 * π) ≤ I.start + I.angle + angleTol

/-- what `AngleInterval.new` produces -/
def Canonical (I : AngleInterval ℝ) : Prop :=
  0 ≤ I.start ∧ I.start < 2 * π ∧ 0 ≤ I.angle ∧ I.angle ≤ 2 * π

/-- `h` has the shape in which `to2pi_congr` delivers it -/
theorem Swept.congr {I : AngleInterval ℝ} {a b : ℝ} (h : ∃ k : ℤ, b = a + k * (2 * π)) (hs : Swept I a) : Swept I b := by
  obtain ⟨k, rfl⟩ := h
  obtain ⟨m, h1, h2⟩ := hs
  exact ⟨m - k, by push_cast; linarith, by push_cast; linarith⟩

theorem SweptTol.of_swept {I : AngleInterval ℝ} {a : ℝ} (h : Swept I a) : SweptTol I a := by
  obtain ⟨k, h1, h2⟩ := h
  have := angleTol_bounds.1
  exact ⟨k, by linarith, by linarith⟩

theorem swept_start {I : AngleInterval ℝ} (h : 0 ≤ I.angle) : Swept I I.start :=
  ⟨0, by simp, by simpa using h⟩

theorem new_canonical (s e : ℝ) : Canonical (AngleInterval.new s e) := by
  have h2 := Real.two_pi_pos.le
  unfold AngleInterval.new Canonical
  rw [smin_eq, smin_eq, sabs_eq, twoPi_eq]
  split_ifs with h
  · exact ⟨(to2pi_range _).1, (to2pi_range _).2, le_min (abs_nonneg e) h2, min_le_right _ _⟩
  · exact ⟨(to2pi_range _).1, (to2pi_range _).2, le_min (not_lt.mp h) h2, min_le_right _ _⟩

/-- a negative extent gives the interval taken from its other end -/
theorem new_negative_extent (s e : ℝ) (he : e < 0) :
    AngleInterval.new s e = AngleInterval.new (s + e) (-e) := by
  unfold AngleInterval.new
  rw [if_pos he, if_neg (not_lt.2 (neg_nonneg.2 he.le)), sabs, if_pos he]

/-- the normalised angle lies in the widened interval, or does so after one more turn -/
theorem contains_iff (I : AngleInterval ℝ) (a : ℝ) :
    I.contains a = true ↔
      (I.start - angleTol ≤ angleTo2pi a ∧ angleTo2pi a ≤ I.start + I.angle + angleTol) ∨
        angleTo2pi a + 2 * π ≤ I.start + I.angle + angleTol := by
  have hp := Real.pi_pos
  unfold AngleInterval.contains
  dsimp only
  split_ifs with h
  · exact ⟨fun h2 => .inl ⟨h, of_decide_eq_true h2⟩, fun h2 => decide_eq_true (h2.elim And.right fun h3 => by linarith)⟩
  · exact ⟨fun h2 => .inr (of_decide_eq_true h2), fun h2 => decide_eq_true (h2.resolve_left fun h3 => h h3.1)⟩

theorem contains_sound {I : AngleInterval ℝ} (hI : Canonical I) {a : ℝ} (h : I.contains a = true) :
    SweptTol I a := by
  obtain ⟨k, hk⟩ := to2pi_congr a
  rcases (contains_iff I a).1 h with h | h
  · exact ⟨k, by rw [← hk]; exact h⟩
  · have := (to2pi_range a).1
    have := angleTol_bounds.1
    exact ⟨k + 1, by push_cast; linarith [hI.2.1], by push_cast; linarith⟩

theorem turns_zero_or_one {T : ℝ} (hT : 0 < T) {j : ℤ} (h0 : -1 * T < j * T) (h2 : j * T < 2 * T) : j = 0 ∨ j = 1 := by
  have j0 : -1 < j := by exact_mod_cast lt_of_mul_lt_mul_right h0 hT.le
  have j2 : j < 2 := by exact_mod_cast lt_of_mul_lt_mul_right h2 hT.le
  omega

theorem contains_complete {I : AngleInterval ℝ} (hI : Canonical I) {a : ℝ} (h : Swept I a) :
    I.contains a = true := by
  -- the witness for the normalised angle is a number of turns `m` with `−2π < m·2π < 4π`: none or one
  obtain ⟨m, hm1, hm2⟩ := h.congr (to2pi_congr a)
  obtain ⟨c0, c1, c2, c3⟩ := hI
  obtain ⟨r0, r1⟩ := to2pi_range a
  have ht := angleTol_bounds.1
  rw [contains_iff]
  rcases turns_zero_or_one (j := m) Real.two_pi_pos (by linarith) (by linarith) with rfl | rfl
  · left; push_cast at hm1 hm2; constructor <;> linarith
  · right; push_cast at hm2; linarith

/-- Two canonical intervals whose exact swept sets share an angle are reported as intersecting. -/
theorem intersects_of_share (I J : AngleInterval ℝ) (hI : Canonical I) (hJ : Canonical J)
    (a : ℝ) (hIa : Swept I a) (hJa : Swept J a) : I.intersects J = true := by
  obtain ⟨k, hk1, hk2⟩ := hIa
  obtain ⟨m, hm1, hm2⟩ := hJa
  unfold AngleInterval.intersects
  -- shift `J` by `k − m` turns, into the turn where `I` holds `a`: both intervals start at or before `a + k·2π` and
  -- reach it, so whichever starts later has its start inside the other
  rcases le_or_gt I.start (J.start + ((k - m : ℤ) : ℝ) * (2 * π)) with h | h
  · rw [contains_complete hI (a := J.start) ⟨k - m, h, by push_cast at *; linarith⟩, Bool.true_or]
  · rw [contains_complete hJ (a := I.start) ⟨m - k, by push_cast at *; linarith, by push_cast at *; linarith⟩,
      Bool.or_true]

theorem share_of_intersects (I J : AngleInterval ℝ) (hI : Canonical I) (hJ : Canonical J)
    (h : I.intersects J = true) : ∃ a, SweptTol I a ∧ SweptTol J a := by
  unfold AngleInterval.intersects at h
  rcases Bool.or_eq_true_iff.mp h with h | h
  · exact ⟨J.start, contains_sound hI h, .of_swept (swept_start hJ.2.2.1)⟩
  · exact ⟨I.start, .of_swept (swept_start hI.2.2.1), contains_sound hJ h⟩

theorem signedAngle_range (v w : V2 ℝ) : -π < signedAngle v w ∧ signedAngle v w ≤ π := by
  unfold signedAngle
  exact Complex.arg_mem_Ioc _

theorem directed_range (v w : V2 ℝ) (d : AngleDir) :
    0 ≤ directedAngle v w d ∧ directedAngle v w d ≤ 2 * π := by
  have h := signedAngle_range v w
  have hp := Real.pi_pos
  have e2 := twoPi_eq
  unfold directedAngle
  cases d <;> dsimp only <;> split_ifs <;> constructor <;> linarith

theorem directed_cw_add_ccw (v w : V2 ℝ) :
    directedAngle v w .cw + directedAngle v w .ccw = 2 * π ∨
    (directedAngle v w .cw = 0 ∧ directedAngle v w .ccw = 0) := by
  have e2 := twoPi_eq
  unfold directedAngle
  dsimp only
  rcases lt_trichotomy (signedAngle v w) 0 with h | h | h
  · left; rw [if_neg (by linarith), if_pos (by linarith), e2]; ring
  · right; rw [h]; simp
  · left; rw [if_pos (by linarith), if_neg (by linarith), e2]; ring

/-! ### scalar `Interval`: the statements over an ordered field (second section) use no more than its order -/

section
variable {L : Type} [LinearOrder L]

theorem interval_new_eq (a b : L) : Interval.new a b = ⟨min a b, max a b⟩ := by
  unfold Interval.new; rw [smin_eq, smax_eq]

theorem interval_clamp_eq (I : Interval L) (x : L) : I.clamp x = max (min x I.max) I.min := by
  unfold Interval.clamp; rw [smin_eq, smax_eq]

theorem interval_contains_iff (I : Interval L) (x : L) :
    I.contains x = true ↔ I.min ≤ x ∧ x ≤ I.max := by
  unfold Interval.contains; simp

theorem interval_overlaps_iff {I J : Interval L} (hI : I.min ≤ I.max) (hJ : J.min ≤ J.max) :
    I.overlaps J = true ↔ ∃ x, (I.min ≤ x ∧ x ≤ I.max) ∧ (J.min ≤ x ∧ x ≤ J.max) := by
  unfold Interval.overlaps
  simp only [Bool.or_eq_true, interval_contains_iff]
  constructor
  · rintro (h | h)
    · exact ⟨J.min, h, le_refl _, hJ⟩
    · exact ⟨I.min, ⟨le_refl _, hI⟩, h⟩
  · rintro ⟨x, ⟨h1, h2⟩, h3, h4⟩
    rcases le_total I.min J.min with h | h
    · left; exact ⟨h, h3.trans h2⟩
    · right; exact ⟨h, h1.trans h4⟩

theorem interval_intersection_eq (I J : Interval L) :
    I.intersection J = if I.overlaps J then
      some ⟨min (max I.min J.min) (min I.max J.max), max (max I.min J.min) (min I.max J.max)⟩ else none := by
  unfold Interval.intersection; rw [smax_eq, smin_eq, interval_new_eq]

theorem interval_clamp_mem {I : Interval L} (hI : I.min ≤ I.max) (x : L) :
    I.min ≤ I.clamp x ∧ I.clamp x ≤ I.max := by
  rw [interval_clamp_eq]; exact ⟨le_max_right _ _, max_le (min_le_right _ _) hI⟩

theorem interval_clamp_of_mem {I : Interval L} {x : L} (h1 : I.min ≤ x) (h2 : x ≤ I.max) :
    I.clamp x = x := by
  rw [interval_clamp_eq, min_eq_left h2, max_eq_left h1]

end

section
variable {F : Type} [Field F] [LinearOrder F] [IsStrictOrderedRing F]

theorem interval_new_ordered (a b : F) :
    (Interval.new a b).min ≤ (Interval.new a b).max ∧
    (Interval.new a b).min = min a b ∧ (Interval.new a b).max = max a b := by
  rw [interval_new_eq]; exact ⟨min_le_max, rfl, rfl⟩

theorem interval_intersection_comm (I J : Interval F) :
    (I.intersection J).map (fun K => (K.min, K.max)) = (J.intersection I).map (fun K => (K.min, K.max)) := by
  have ho : I.overlaps J = J.overlaps I := Bool.or_comm _ _
  rw [interval_intersection_eq, interval_intersection_eq, ho, max_comm I.min, min_comm I.max]

/-- The intersection is exactly the set of common points (so it is contained in both operands). -/
theorem interval_intersection_spec (I J K : Interval F) (hI : I.min ≤ I.max) (hJ : J.min ≤ J.max)
    (h : I.intersection J = some K) (x : F) :
    (K.min ≤ x ∧ x ≤ K.max) ↔ ((I.min ≤ x ∧ x ≤ I.max) ∧ (J.min ≤ x ∧ x ≤ J.max)) := by
  rw [interval_intersection_eq] at h
  split_ifs at h with ho
  obtain ⟨y, ⟨y1, y2⟩, y3, y4⟩ := (interval_overlaps_iff hI hJ).mp ho
  -- the operands share `y`, so the bounds come out in order
  have hle : max I.min J.min ≤ min I.max J.max := le_min ((max_le y1 y3).trans y2) ((max_le y1 y3).trans y4)
  rw [min_eq_left hle, max_eq_right hle] at h
  obtain rfl := Option.some.inj h
  simp only [max_le_iff, le_min_iff]
  exact and_and_and_comm

theorem interval_clamp_idem (I : Interval F) (hI : I.min ≤ I.max) (x : F) :
    I.clamp (I.clamp x) = I.clamp x :=
  interval_clamp_of_mem (interval_clamp_mem hI x).1 (interval_clamp_mem hI x).2

end

/-! non-vacuity -/

example : Canonical (⟨1, 2⟩ : AngleInterval ℝ) := by
  have := Real.two_le_pi
  refine ⟨?_, ?_, ?_, ?_⟩ <;> dsimp only <;> linarith
example : Swept (⟨1, 2⟩ : AngleInterval ℝ) 2 := ⟨0, by norm_num, by norm_num⟩
example : ((Interval.new (3 : ℚ) 1).min, (Interval.new (3 : ℚ) 1).max) = (1, 3) := by
  simp [Interval.new, smin, smax]

end C18
