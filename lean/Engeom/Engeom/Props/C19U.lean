import Engeom.Props.C19B
import Engeom.Props.C03
import Engeom.Props.C19T
/-
  C19 — stated about the REGENERATED code (over ℝ).  The plane theorems (src/geom3/plane3.rs) are those of Props/C19B
  and Props/C03, carried over by the equalities of Props/C19T (not carried over: `distance_to_point`,
  `intersection_distance`, `from_surface_point`).  The two fragments of src/common/svd_basis.rs (the rows
  handed to the SVD; the counting loop of `rank`, for any number of singular values) are treated directly, from what
  the regenerated text computes.
-/
namespace C19U

theorem from_three_points_contains_them (p1 p2 p3 : V3 ℝ) :
    let P := GenRs.Plane3_from_three_points p1 p2 p3
    GenRs.Plane3_signed_distance_to_point P p1 = 0 ∧ GenRs.Plane3_signed_distance_to_point P p2 = 0 ∧
    GenRs.Plane3_signed_distance_to_point P p3 = 0 := by
  intro P
  have hP : P = Plane3.ofThreePoints p1 p2 p3 := C19T.Plane3_from_three_points_eq p1 p2 p3
  rw [hP, C19T.Plane3_signed_distance_eq, C19T.Plane3_signed_distance_eq, C19T.Plane3_signed_distance_eq]
  exact C19.plane_contains_three p1 p2 p3

theorem from_three_points_unit_normal (p1 p2 p3 : V3 ℝ) (hN : Plane3.rawNormal3 p1 p2 p3 ≠ ⟨0, 0, 0⟩) :
    let P := GenRs.Plane3_from_three_points p1 p2 p3
    V3.dot P.normal P.normal = 1 ∧ 0 < V3.dot P.normal (Plane3.rawNormal3 p1 p2 p3) := by
  intro P
  have hP : P = Plane3.ofThreePoints p1 p2 p3 := C19T.Plane3_from_three_points_eq p1 p2 p3
  rw [hP]
  exact C19.plane_three_unit_normal p1 p2 p3 hN

theorem from_normal_point_contains_point (n p : V3 ℝ) :
    GenRs.Plane3_signed_distance_to_point (GenRs.Plane3_from_normal_point n p) p = 0 := by
  rw [C19T.Plane3_from_normal_point_eq, C19T.Plane3_signed_distance_eq]
  exact C19.plane_contains_point n p

theorem project_fixes_points_of_the_plane (P : Plane3 ℝ) (q : V3 ℝ) (h : GenRs.Plane3_signed_distance_to_point P q = 0) :
    GenRs.Plane3_project_point P q = q := by
  rw [C19T.Plane3_signed_distance_eq] at h
  rw [C19T.Plane3_project_point_eq]
  exact C03.plane_project_fixed P q h

theorem projection_lies_on_the_plane (P : Plane3 ℝ) (hn : V3.dot P.normal P.normal = 1) (q : V3 ℝ) :
    GenRs.Plane3_signed_distance_to_point P (GenRs.Plane3_project_point P q) = 0 := by
  rw [C19T.Plane3_project_point_eq, C19T.Plane3_signed_distance_eq]
  exact C03.plane_project_on_plane P hn q

theorem inverted_normal_flips_signed_distance (P : Plane3 ℝ) (q : V3 ℝ) :
    GenRs.Plane3_signed_distance_to_point (GenRs.Plane3_inverted_normal P) q
      = -GenRs.Plane3_signed_distance_to_point P q := by
  rw [C19T.Plane3_inverted_normal_eq, C19T.Plane3_signed_distance_eq, C19T.Plane3_signed_distance_eq]
  exact C03.plane_inverted_flips P q

/-- whatever the weights (`h`: one per point): a point of tiny or zero weight still has its row -/
theorem weighted_rows_one_per_point (pts : List (V3 ℝ)) (w : List ℝ) (c : V3 ℝ) (h : pts.length = w.length) :
    (GenRs.svd_weighted_rows pts w c).length = pts.length := by
  unfold GenRs.svd_weighted_rows
  simp [h]

/-- the "unchanged by uniformly scaling all weights" clause at the level of the rows; what scaled rows do to the
    decomposition is `C19.svd_weight_scaling` (for `k > 0`, under the contract) -/
theorem weighted_rows_scale (pts : List (V3 ℝ)) (w : List ℝ) (c : V3 ℝ) (k : ℝ) :
    GenRs.svd_weighted_rows pts (w.map (k * ·)) c = (GenRs.svd_weighted_rows pts w c).map (V3.smul k) := by
  have e (w : List ℝ) : GenRs.svd_weighted_rows pts w c = centredRowsW c pts w :=
    (C19.centredRowsW_eq c pts w).symm
  rw [e, e]; exact C19.centredRowsW_scale k c pts w

/-- STRICTLY above: the Rust doc calls `tol` "the largest value that a singular value can have and still be considered zero" -/
theorem rank_counts_values_above_tol (sv : List ℝ) (tol : ℝ) :
    GenRs.svd_rank sv tol = (sv.filter (fun s => decide (tol < s))).length :=
  -- `if tol < s { n += 1 }`: a conditional step is a step over the filtered list, and adding 1 counts
  (List.foldl_ite_left (P := (tol < ·))).trans (by rw [List.foldl_add_const, Nat.zero_add, Nat.one_mul])

theorem rank_le_count (sv : List ℝ) (tol : ℝ) : GenRs.svd_rank sv tol ≤ sv.length := by
  rw [rank_counts_values_above_tol]; exact List.length_filter_le _ _

theorem rank_antitone (sv : List ℝ) {t t' : ℝ} (h : t ≤ t') : GenRs.svd_rank sv t' ≤ GenRs.svd_rank sv t := by
  rw [rank_counts_values_above_tol, rank_counts_values_above_tol]
  refine (List.monotone_filter_right sv fun s hs => ?_).length_le
  exact decide_eq_true (lt_of_le_of_lt h (of_decide_eq_true hs))

theorem rank_zero_of_all_le (sv : List ℝ) (tol : ℝ) (h : ∀ s ∈ sv, s ≤ tol) : GenRs.svd_rank sv tol = 0 := by
  rw [rank_counts_values_above_tol]
  simp only [List.length_eq_zero_iff, List.filter_eq_nil_iff, decide_eq_true_eq, not_lt]
  exact h

example : GenRs.svd_rank [3, 2, (0 : ℝ)] 2 = 1 := by
  rw [rank_counts_values_above_tol]; norm_num [List.filter]

end C19U
