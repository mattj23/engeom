import Engeom.Model.Frame
import Engeom.Lemmas.CurveCore
import Engeom.Lemmas.RealScalar
import Engeom.Lemmas.Vec
import Mathlib.Tactic.Ring
import Mathlib.Tactic.LinearCombination
import Mathlib.Algebra.Order.Field.Basic
/-
  C03 — Measurements do not depend on the coordinate frame: for every ordered field and every motion with an
  orthogonal matrix part (RᵀR = I: `IsRot3`, `IsRot2`) plus translation.  In 2-D also the two measuring steps of
  curve construction (`dedupTolPts`, `cumLengths`); the model has no 2-D plane, and `SP2.projection` has no theorem.
-/

namespace C03

variable {F : Type} [Field F] [LinearOrder F] [IsStrictOrderedRing F]

/-- The columns are orthonormal.  The determinant is not asked for, so a reflection qualifies too: enough for
    everything built from dot products, not for moving a cross product. -/
structure IsRot3 (T : Iso3 F) : Prop where
  c00 : V3.dot T.col0 T.col0 = 1
  c11 : V3.dot T.col1 T.col1 = 1
  c22 : V3.dot T.col2 T.col2 = 1
  c01 : V3.dot T.col0 T.col1 = 0
  c02 : V3.dot T.col0 T.col2 = 0
  c12 : V3.dot T.col1 T.col2 = 0

theorem IsRot3.orthonormal {T : Iso3 F} (h : IsRot3 T) : V3.Orthonormal T.col0 T.col1 T.col2 :=
  ⟨h.c00, h.c11, h.c22, h.c01, h.c02, h.c12⟩

theorem IsRot3.of_orthonormal {T : Iso3 F} (h : V3.Orthonormal T.col0 T.col1 T.col2) : IsRot3 T :=
  ⟨h.u0, h.u1, h.u2, h.o01, h.o02, h.o12⟩

structure IsRot2 (T : Iso2 F) : Prop where
  unit : T.c * T.c + T.s * T.s = 1

theorem dot_applyVec (T : Iso3 F) (h : IsRot3 T) (a b : V3 F) :
    V3.dot (T.applyVec a) (T.applyVec b) = V3.dot a b := by
  rw [T.applyVec_eq_cols, T.applyVec_eq_cols, h.orthonormal.dot_comb]; rfl

/-- the columns of `A * B` are, by `rfl`, the columns of `B` rotated by `A` -/
theorem IsRot3.mul {A B : Iso3 F} (hA : IsRot3 A) (hB : IsRot3 B) : IsRot3 (A.mul B) :=
  .of_orthonormal (hB.orthonormal.map (dot_applyVec A hA))

theorem distSq_apply (T : Iso3 F) (h : IsRot3 T) (p q : V3 F) :
    V3.normSq (V3.sub (T.apply p) (T.apply q)) = V3.normSq (V3.sub p q) := by
  rw [T.apply_sub_apply]; exact dot_applyVec T h _ _

theorem dist_apply (T : Iso3 ℝ) (h : IsRot3 T) (p q : V3 ℝ) : vdist (T.apply p) (T.apply q) = vdist p q :=
  congrArg Real.sqrt (distSq_apply T h p q)

theorem scalarProjection_invariant (T : Iso3 F) (h : IsRot3 T) (s : SP3 F) (q : V3 F) :
    (s.transformed T).scalarProjection (T.apply q) = s.scalarProjection q := by
  rw [SP3.scalarProjection, SP3.transformed, T.apply_sub_apply]; exact dot_applyVec T h _ _

theorem projection_commutes (T : Iso3 F) (h : IsRot3 T) (s : SP3 F) (q : V3 F) :
    (s.transformed T).projection (T.apply q) = T.apply (s.projection q) := by
  rw [SP3.projection, scalarProjection_invariant T h]
  exact (T.apply_add_smul ..).symm

/-- `hn`: `transformBy` moves the representative point `d·n`, which lies on the plane only for a unit normal (the Rust
    field is a `UnitVec3`) -/
theorem plane_signedDistance_invariant (T : Iso3 F) (h : IsRot3 T) (P : Plane3 F)
    (hn : V3.dot P.normal P.normal = 1) (q : V3 F) :
    (P.transformBy T).signedDistance (T.apply q) = P.signedDistance q := by
  rw [Plane3.transformBy_eq, Plane3.signedDistance_ofNormalPoint, T.apply_sub_apply, dot_applyVec T h, V3.dot_sub_right,
    V3.dot_smul_right, hn, mul_one]; rfl

theorem plane_project_commutes (T : Iso3 F) (h : IsRot3 T) (P : Plane3 F)
    (hn : V3.dot P.normal P.normal = 1) (q : V3 F) :
    (P.transformBy T).project (T.apply q) = T.apply (P.project q) := by
  unfold Plane3.project
  rw [plane_signedDistance_invariant T h P hn, T.apply_sub_smul, Plane3.transformBy_eq]; rfl

theorem plane_inverted_flips (P : Plane3 F) (q : V3 F) :
    P.invertedNormal.signedDistance q = -P.signedDistance q := by
  simp only [Plane3.invertedNormal, Plane3.signedDistance, V3.dot_neg_left]; ring

theorem plane_project_on_plane (P : Plane3 F) (hn : V3.dot P.normal P.normal = 1) (q : V3 F) :
    P.signedDistance (P.project q) = 0 := by
  rw [Plane3.signedDistance, Plane3.project, V3.dot_sub_right, V3.dot_smul_right, hn, mul_one,
    Plane3.signedDistance]; ring

theorem plane_project_fixed (P : Plane3 F) (q : V3 F) (h : P.signedDistance q = 0) : P.project q = q := by
  rw [Plane3.project, h, V3.zero_smul, V3.sub_zero]

theorem plane_project_idem (P : Plane3 F) (hn : V3.dot P.normal P.normal = 1) (q : V3 F) :
    P.project (P.project q) = P.project q :=
  plane_project_fixed P _ (plane_project_on_plane P hn q)

theorem inv_apply_apply (T : Iso3 F) (h : IsRot3 T) (p : V3 F) : T.inv.apply (T.apply p) = p := by
  rw [Iso3.inv_apply, Iso3.apply, V3.add_sub_cancel_right, Iso3.applyVec_eq_cols]
  exact h.orthonormal.coords p.x p.y p.z

theorem mul_apply (A B : Iso3 F) (p : V3 F) : (A.mul B).apply p = A.apply (B.apply p) := by
  show V3.add ((A.mul B).applyVec p) (A.apply B.t) = A.apply (V3.add (B.applyVec p) B.t)
  rw [Iso3.applyVec_mul, Iso3.apply, Iso3.apply, A.applyVec_add, V3.add_assoc]

theorem dot_applyVec2 (T : Iso2 F) (h : IsRot2 T) (a b : V2 F) :
    V2.dot (T.applyVec a) (T.applyVec b) = V2.dot a b := by
  simp only [Iso2.applyVec, V2.dot]
  linear_combination (a.x * b.x + a.y * b.y) * h.unit

/-- `(ac − bd)² + (bc + ad)² = (a² + b²)(c² + d²)` -/
theorem IsRot2.mul {A B : Iso2 F} (hA : IsRot2 A) (hB : IsRot2 B) : IsRot2 (A.mul B) :=
  ⟨by simp only [Iso2.mul]; linear_combination (B.c * B.c + B.s * B.s) * hA.unit + hB.unit⟩

theorem apply_sub_apply2 (T : Iso2 F) (p q : V2 F) : V2.sub (T.apply p) (T.apply q) = T.applyVec (V2.sub p q) := by
  ext <;> simp only [Iso2.apply, Iso2.applyVec, V2.sub, V2.add] <;> ring

theorem distSq_apply2 (T : Iso2 F) (h : IsRot2 T) (p q : V2 F) :
    V2.normSq (V2.sub (T.apply p) (T.apply q)) = V2.normSq (V2.sub p q) := by
  rw [apply_sub_apply2]; exact dot_applyVec2 T h _ _

theorem dist_apply2 (T : Iso2 ℝ) (h : IsRot2 T) (p q : V2 ℝ) : vdist (T.apply p) (T.apply q) = vdist p q :=
  congrArg Real.sqrt (distSq_apply2 T h p q)

theorem scalarProjection_invariant2 (T : Iso2 F) (h : IsRot2 T) (s : SP2 F) (q : V2 F) :
    (s.transformed T).scalarProjection (T.apply q) = s.scalarProjection q := by
  rw [SP2.scalarProjection, SP2.transformed, apply_sub_apply2]; exact dot_applyVec2 T h _ _

theorem inv_apply_apply2 (T : Iso2 F) (h : IsRot2 T) (p : V2 F) : T.inv.apply (T.apply p) = p := by
  ext <;> simp only [Iso2.inv, Iso2.apply, Iso2.applyVec, V2.add, V2.neg]
  · linear_combination p.x * h.unit
  · linear_combination p.y * h.unit

theorem mul_apply2 (A B : Iso2 F) (p : V2 F) : (A.mul B).apply p = A.apply (B.apply p) := by
  ext <;> simp only [Iso2.mul, Iso2.apply, Iso2.applyVec, V2.add] <;> ring

theorem dedup_map_apply2 (T : Iso2 ℝ) (h : IsRot2 T) (tol : ℝ) (pts : List (V2 ℝ)) :
    dedupTolPts tol (pts.map T.apply) = (dedupTolPts tol pts).map T.apply :=
  dedupTolPts_map T.apply (dist_apply2 T h) tol pts

theorem cumLengths_map_apply2 (T : Iso2 ℝ) (h : IsRot2 T) (pts : List (V2 ℝ)) :
    cumLengths (pts.map T.apply) = cumLengths pts :=
  cumLengths_map T.apply (dist_apply2 T h) pts

/-! non-vacuity: a quarter turn about z, shifted -/
example : IsRot3 (⟨⟨0, -1, 0⟩, ⟨1, 0, 0⟩, ⟨0, 0, 1⟩, ⟨5, 6, 7⟩⟩ : Iso3 ℚ) := by
  constructor <;> norm_num [Iso3.col0, Iso3.col1, Iso3.col2, V3.dot]
example : IsRot2 (⟨3 / 5, 4 / 5, ⟨1, 2⟩⟩ : Iso2 ℚ) := ⟨by norm_num⟩

end C03
