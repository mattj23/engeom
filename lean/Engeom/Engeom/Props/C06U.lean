import Engeom.Props.C06
import Engeom.Props.C06T
import Engeom.Lemmas.Loops
/-
  C06 — stated about REGENERATED code, over ℝ: `intersection_param` (src/geom2/line2.rs) refuses exactly the
  near-parallel pairs, and the two parameters it returns describe one point on both lines; the scan of
  `max_point_in_direction` (src/common/points.rs) returns an argmax of the projections.
-/
namespace C06U

theorem intersection_param_none_iff (a0 ad b0 bd : V2 ℝ) :
    GenRs.intersection_param a0 ad b0 bd = none ↔ |bd.x * ad.y - bd.y * ad.x| < detTol := by
  rw [C06T.intersection_param_eq]; exact C06.intersectionParam_none_iff a0 ad b0 bd

theorem intersection_param_sound (a0 ad b0 bd : V2 ℝ) (t0 t1 : ℝ)
    (h : GenRs.intersection_param a0 ad b0 bd = some (t0, t1)) :
    V2.add a0 (V2.smul t0 ad) = V2.add b0 (V2.smul t1 bd) := by
  rw [C06T.intersection_param_eq] at h; exact C06.intersectionParam_sound a0 ad b0 bd t0 t1 h

/-- How parallel is "parallel": with the cut-off of the current source no pair with `|bd × ad| ≥ 1e-11` is refused, and
    a source that refuses more fails `C06.detTol_bounds`.  The completeness clauses of the correspondence judge
    crossings from a decade above this floor. -/
theorem intersection_param_refuses_only_below_1e_11 (a0 ad b0 bd : V2 ℝ)
    (h : (1 : ℝ) / 10 ^ 11 ≤ |bd.x * ad.y - bd.y * ad.x|) : GenRs.intersection_param a0 ad b0 bd ≠ none :=
  fun hn => absurd ((intersection_param_none_iff a0 ad b0 bd).mp hn) (not_lt.mpr (C06.detTol_bounds.2.trans h))

theorem max_point_scan_eq (pts : List (V2 ℝ)) (v : V2 ℝ) (fmin : ℝ) :
    GenRs.max_point_scan pts v fmin = (List.foldl (fun (st : ℝ × Option Nat) (ip : Nat × V2 ℝ) =>
      if st.1 < V2.dot ip.2 v then (V2.dot ip.2 v, some ip.1) else st) (fmin, none) (enumerateL pts)).2 := rfl

/-- The farthest projected vertex is the exhaustive maximum.  `fmin` is `f64::MIN` in the code: every finite projection
    exceeds it. -/
theorem max_point_scan_is_argmax (pts : List (V2 ℝ)) (v : V2 ℝ) (fmin : ℝ) (hne : pts ≠ [])
    (hmin : ∀ p ∈ pts, fmin < V2.dot p v) :
    ∃ i p, GenRs.max_point_scan pts v fmin = some i ∧ pts[i]? = some p ∧ ∀ q ∈ pts, V2.dot q v ≤ V2.dot p v := by
  rw [max_point_scan_eq]
  obtain ⟨_, hall, hrec⟩ := Loops.foldl_first_max (fun ip : Nat × V2 ℝ => V2.dot ip.2 v) (fun ip => some ip.1)
    (enumerateL pts) (fmin, none)
  have hall' : ∀ q ∈ pts, V2.dot q v ≤ _ := fun q hq => by
    obtain ⟨k, hk⟩ := List.getElem?_of_mem hq
    exact hall (k, q) (Loops.mem_enumerateL.mpr hk)
  rcases hrec with e | ⟨⟨i, p⟩, hip, e⟩ <;> rw [e] at hall' ⊢
  · -- the starting value cannot survive: every vertex exceeds it
    obtain ⟨x, hx⟩ := List.exists_mem_of_ne_nil pts hne
    exact absurd (hall' x hx) (not_le.mpr (hmin x hx))
  · exact ⟨i, p, rfl, Loops.mem_enumerateL.mp hip, hall'⟩

theorem max_point_scan_empty (v : V2 ℝ) (fmin : ℝ) : GenRs.max_point_scan [] v fmin = none := rfl

example : ∃ i p, GenRs.max_point_scan [⟨0, 0⟩, ⟨3, 1⟩, ⟨1, 5⟩] (⟨1, 0⟩ : V2 ℝ) (-100) = some i ∧
    ([⟨0, 0⟩, ⟨3, 1⟩, ⟨1, 5⟩] : List (V2 ℝ))[i]? = some p ∧ ∀ q ∈ ([⟨0, 0⟩, ⟨3, 1⟩, ⟨1, 5⟩] : List (V2 ℝ)), V2.dot q ⟨1, 0⟩ ≤ V2.dot p ⟨1, 0⟩ :=
  max_point_scan_is_argmax _ _ _ (by simp) (by intro p hp; simp at hp; rcases hp with rfl | rfl | rfl <;> simp [V2.dot] <;> norm_num)

/-- `Curve2::max_point_in_direction` scans every stored vertex (the last one of a closed curve included) and
    `Curve2::ray_intersections` is the polyline search on the curve's own line, with no test before it.  The statement
    only fixes that each hands on its whole list; that the Rust does so is what the translator's whole-body patterns
    enforce. -/
theorem curve_entry_points_delegate_everything (pts line : List (V2 ℝ)) :
    GenRs.curve_max_point_vertices pts = pts ∧ GenRs.curve_ray_intersections_line line = line := ⟨rfl, rfl⟩

theorem curve_farthest_vertex_is_argmax (pts : List (V2 ℝ)) (v : V2 ℝ) (fmin : ℝ) (hne : pts ≠ [])
    (hmin : ∀ p ∈ pts, fmin < V2.dot p v) :
    ∃ i p, GenRs.max_point_scan (GenRs.curve_max_point_vertices pts) v fmin = some i ∧ pts[i]? = some p ∧
      ∀ q ∈ pts, V2.dot q v ≤ V2.dot p v :=
  max_point_scan_is_argmax pts v fmin hne hmin

end C06U
