import Engeom.Generated.RsC04
/-
  C04 — translation tie, for every scalar type.  Regenerated from src/geom2/curve2.rs: the whole of
  `Curve2::between_lengths_by_control` (operator precedence of its second test included), `trim_front`, `trim_back`,
  `reversed`, and from `Curve2::between_lengths` the `last_index` rule and the ill-posed-request test, which are the
  `betweenLastIndex` and `betweenIllPosed` that the model's `betweenRaw` calls.
-/
namespace C04T
set_option linter.unusedSectionVars false
variable {α : Type} [Add α] [Sub α] [Mul α] [Div α] [Neg α] [LT α] [LE α]
  [DecidableLT α] [DecidableLE α] [OfNat α 0] [OfNat α 1] [OfNat α 2] [Scalar α]
  [Inhabited α] [Inhabited (V2 α)] [Inhabited (V3 α)]

theorem between_by_control_eq (c : Curve α (V2 α)) (a b ctl : α) :
    GenRs.between_lengths_by_control c a b ctl = c.betweenByControl a b ctl := rfl

theorem between_ill_posed_eq (c : Curve α (V2 α)) (l0 l1 : α) (wrap : Bool) :
    GenRs.between_ill_posed c l0 l1 wrap = c.betweenIllPosed l0 l1 wrap := rfl

theorem between_last_index_eq (c : Curve α (V2 α)) :
    GenRs.between_last_index c = c.betweenLastIndex := rfl

theorem trim_front_eq (c : Curve α (V2 α)) (l : α) : GenRs.trim_front c l = c.between l c.length := rfl
theorem trim_back_eq (c : Curve α (V2 α)) (l : α) : GenRs.trim_back c l = c.between 0 (c.length - l) := rfl

/-- `Curve2::reversed` rebuilds the curve from its reversed vertices through `from_points`; the model keeps the `Option`
    the Rust code unwraps -/
theorem reversed_eq (c : Curve α (V2 α)) (hb : c.blend = true) : GenRs.reversed c = c.reversed := by
  unfold GenRs.reversed Curve.reversed
  rw [hb]
end C04T
