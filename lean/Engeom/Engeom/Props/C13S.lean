import Engeom.Props.C13G
import Engeom.Lemmas.Basics
/-
  C13 (continued) — `Mesh::plane_crossing_segments`, the code that produces the section
  (model: `planeCrossingSegments`, every statement of the Rust loop).  Every ordered field.
  The face loop keeps `SecInv`, so no pair of the result refers outside the point list.  And a face adds no other
  points than the key points of its `faceEnds`: an on-plane vertex, within the snapping threshold of the plane, or a
  crossed edge, whose point is exactly on it; hence `section_points_near_plane`.
-/

set_option linter.unusedSectionVars false
namespace C13

variable {F : Type} [Field F] [LinearOrder F] [IsStrictOrderedRing F]

theorem isZero_iff (d : F) : isZero d = true ↔ d = 0 := by
  simp only [isZero, Bool.and_eq_true, Bool.not_eq_true', decide_eq_false_iff_not, not_lt]
  exact and_comm.trans le_antisymm_iff.symm

theorem isBelow_iff (d : F) : isBelow d = true ↔ d < 0 := by simp [isBelow]

theorem snapDist_of_ne_zero {eps d : F} (h : snapDist eps d ≠ 0) : snapDist eps d = d := by
  unfold snapDist at h ⊢
  split_ifs at h ⊢
  exacts [absurd rfl h, rfl]

theorem abs_le_of_snapDist_eq_zero {eps d : F} (he : 0 ≤ eps) (h : snapDist eps d = 0) : |d| ≤ eps := by
  unfold snapDist at h
  rw [sabs_eq] at h
  split_ifs at h with hc
  · exact hc
  · rw [h, abs_zero]; exact he

theorem distOf_getD_of_lt (P : Plane3 F) (eps : F) {verts : List (V3 F)} {i : Nat} (hi : i < verts.length) :
    (distOf P eps verts).getD i 0 = snapDist eps (P.signedDistance (verts.getD i ⟨0, 0, 0⟩)) := by
  simp [distOf, List.getD_eq_getElem?_getD, hi]

theorem distOf_getD_of_ne_zero {P : Plane3 F} {eps : F} {verts : List (V3 F)} {i : Nat}
    (hne : (distOf P eps verts).getD i 0 ≠ 0) :
    (distOf P eps verts).getD i 0 = P.signedDistance (verts.getD i ⟨0, 0, 0⟩) := by
  by_cases hi : i < verts.length
  · rw [distOf_getD_of_lt P eps hi] at hne ⊢
    exact snapDist_of_ne_zero hne
  · exact absurd (by simp [distOf, List.getD_eq_getElem?_getD, not_lt.mp hi]) hne

theorem keyPoint_edge_on_plane {P : Plane3 F} {eps : F} {verts : List (V3 F)} {i j : Nat}
    (hi : (distOf P eps verts).getD i 0 ≠ 0) (hj : (distOf P eps verts).getD j 0 ≠ 0)
    (hs : (distOf P eps verts).getD i 0 ≠ (distOf P eps verts).getD j 0) :
    P.signedDistance (keyPoint verts (distOf P eps verts) (.edge i j)) = 0 := by
  have ei := distOf_getD_of_ne_zero hi
  have ej := distOf_getD_of_ne_zero hj
  unfold keyPoint
  dsimp only
  rw [ei, ej] at hs ⊢
  -- `dᵢ + dᵢ / (dᵢ − dⱼ) · (dⱼ − dᵢ) = dᵢ − dᵢ`
  rw [signedDistance_lerp, ← neg_sub (P.signedDistance (verts.getD i ⟨0, 0, 0⟩)), mul_neg,
    div_mul_cancel₀ _ (sub_ne_zero.mpr hs), add_neg_cancel]

theorem keyPoint_vertex_near_plane {P : Plane3 F} {eps : F} {verts : List (V3 F)} {i : Nat} (he : 0 ≤ eps)
    (hi : i < verts.length) (hz : (distOf P eps verts).getD i 0 = 0) :
    |P.signedDistance (keyPoint verts (distOf P eps verts) (.vertex i))| ≤ eps :=
  abs_le_of_snapDist_eq_zero he (distOf_getD_of_lt P eps hi ▸ hz)

structure SecInv (verts : List (V3 F)) (dist : List F) (s : SecState F) : Prop where
  pts : s.points = s.keys.map (keyPoint verts dist)
  pairs : ∀ pr ∈ s.pairs, pr.1 < s.keys.length ∧ pr.2 < s.keys.length

theorem SecInv.len {verts : List (V3 F)} {dist : List F} {s : SecState F} (h : SecInv verts dist s) :
    s.points.length = s.keys.length := by rw [h.pts, List.length_map]

theorem findKey_spec {k : SecKey} {l : List SecKey} {o i : Nat} (h : findKey k l o = some i) :
    o ≤ i ∧ l[i - o]? = some k := by
  fun_induction findKey k l o
  case case1 => simp at h
  case case2 r o =>
    obtain rfl : o = i := by simpa using h
    simp
  case case3 a r o ha ih =>
    obtain ⟨h1, h2⟩ := ih h
    exact ⟨by omega, by rwa [show i - o = (i - (o + 1)) + 1 by omega, List.getElem?_cons_succ]⟩

theorem findKey_lt {k : SecKey} {l : List SecKey} {i : Nat} (h : findKey k l 0 = some i) : i < l.length :=
  (List.getElem?_eq_some_iff.mp (findKey_spec h).2).1

theorem intern_inv {verts : List (V3 F)} {dist : List F} {s : SecState F} (k : SecKey) (h : SecInv verts dist s) :
    SecInv verts dist (s.intern verts dist k).1 ∧ (s.intern verts dist k).2 < (s.intern verts dist k).1.keys.length ∧
      s.keys.length ≤ (s.intern verts dist k).1.keys.length := by
  unfold SecState.intern
  cases hf : findKey k s.keys 0 with
  | some i => exact ⟨h, findKey_lt hf, le_refl _⟩
  | none =>
    refine ⟨⟨by simp [h.pts], fun pr hpr => ?_⟩, by simp, by simp⟩
    have := h.pairs pr hpr
    simp only [List.length_append, List.length_cons, List.length_nil]
    omega

/-- What one face does to the state, as an elimination rule: the proofs below use `sectionFace` only through it. -/
theorem sectionFace_cases {P : Plane3 F} {verts : List (V3 F)} {dist : List F} {faces : List (Nat × Nat × Nat)}
    {s : SecState F} {f : Nat × Nat × Nat} {motive : SecState F → Prop} (same : motive s)
    (joined : ∀ k0 k1 pr, faceEnds f (dist.getD f.1 0) (dist.getD f.2.1 0) (dist.getD f.2.2 0) = [k0, k1] →
      let r0 := s.intern verts dist k0
      let r1 := r0.1.intern verts dist k1
      (pr = (r1.2, r0.2) ∨ pr = (r0.2, r1.2)) → motive { r1.1 with pairs := r1.1.pairs ++ [pr] }) :
    motive (sectionFace P verts dist faces s f) := by
  -- the four branches of `sectionFace`; in the third the pair is an `if … then … else` of the two orders
  fun_cases sectionFace P verts dist faces s f
  exacts [same, same, joined _ _ _ ‹_› (ite_eq_or_eq ..), same]

theorem sectionFace_inv (P : Plane3 F) {verts : List (V3 F)} {dist : List F} (faces : List (Nat × Nat × Nat))
    {s : SecState F} (f : Nat × Nat × Nat) (h : SecInv verts dist s) :
    SecInv verts dist (sectionFace P verts dist faces s f) := by
  refine sectionFace_cases (motive := SecInv verts dist) h fun k0 k1 pr _ hpr => ?_
  obtain ⟨h1, hi0, -⟩ := intern_inv k0 h
  obtain ⟨h2, hi1, hl2⟩ := intern_inv k1 h1
  have hb := lt_of_lt_of_le hi0 hl2
  refine ⟨h2.pts, fun q hq => ?_⟩
  rcases List.mem_append.mp hq with hq | hq
  · exact h2.pairs q hq
  · obtain rfl := List.mem_singleton.mp hq
    rcases hpr with rfl | rfl
    exacts [⟨hi1, hb⟩, ⟨hb, hi1⟩]

/-- every index pair of the result refers to stored points: `points[pair]` never falls back -/
theorem planeCrossingSegments_pairs_valid (P : Plane3 F) (eps : F) (verts : List (V3 F)) (faces : List (Nat × Nat × Nat)) :
    ∀ pr ∈ (planeCrossingSegments P eps verts faces).2,
      pr.1 < (planeCrossingSegments P eps verts faces).1.length ∧ pr.2 < (planeCrossingSegments P eps verts faces).1.length := by
  have h : SecInv verts (distOf P eps verts) _ := List.foldlRecOn faces (b := ⟨[], [], []⟩) _ ⟨rfl, fun _ h => nomatch h⟩
    fun _ hs f _ => sectionFace_inv P faces f hs
  intro pr hpr
  have := h.pairs pr hpr
  rwa [← h.len] at this

/-- a key the loop may create.  For an edge only what "on the plane" needs (`faceEnds` tests more: opposite signs), so
    that an edge point is strictly inside its edge is not stated. -/
def KeyOK (dist : List F) (nverts : Nat) : SecKey → Prop
  | .vertex i => i < nverts ∧ dist.getD i 0 = 0
  | .edge i j => dist.getD i 0 ≠ 0 ∧ dist.getD j 0 ≠ 0 ∧ dist.getD i 0 ≠ dist.getD j 0

theorem faceEnds_ok (dist : List F) {nverts : Nat} {f : Nat × Nat × Nat}
    (hf : f.1 < nverts ∧ f.2.1 < nverts ∧ f.2.2 < nverts) :
    ∀ k ∈ faceEnds f (dist.getD f.1 0) (dist.getD f.2.1 0) (dist.getD f.2.2 0), KeyOK dist nverts k := by
  -- `faceEnds` is three calls of a `let`-bound function, which cannot be named: its body is written out again here
  have one : ∀ (a b : Nat), a < nverts → ∀ k ∈ (if isZero (dist.getD a 0) then [SecKey.vertex a]
      else if !(isZero (dist.getD b 0)) && (isBelow (dist.getD a 0) != isBelow (dist.getD b 0)) then
        [SecKey.edge (ekey a b).1 (ekey a b).2] else []), KeyOK dist nverts k := by
    intro a b ha k hk
    split_ifs at hk with h1 h2
    · obtain rfl := List.mem_singleton.mp hk
      exact ⟨ha, (isZero_iff _).mp h1⟩
    · obtain rfl := List.mem_singleton.mp hk
      rw [Bool.and_eq_true, Bool.not_eq_true', ← Bool.not_eq_true, isZero_iff, bne_iff_ne] at h2
      rw [isZero_iff] at h1
      have hne : dist.getD a 0 ≠ dist.getD b 0 := fun h => h2.2 (by rw [h])
      -- the key names the edge by its sorted ends
      unfold ekey
      split_ifs
      exacts [⟨h1, h2.1, hne⟩, ⟨h2.1, h1, hne.symm⟩]
    · cases hk
  intro k hk
  unfold faceEnds at hk
  simp only [List.mem_append] at hk
  rcases hk with (hk | hk) | hk
  exacts [one _ _ hf.1 k hk, one _ _ hf.2.1 k hk, one _ _ hf.2.2 k hk]

theorem keyOK_near_plane {P : Plane3 F} {eps : F} {verts : List (V3 F)} {k : SecKey} (he : 0 ≤ eps)
    (hk : KeyOK (distOf P eps verts) verts.length k) :
    |P.signedDistance (keyPoint verts (distOf P eps verts) k)| ≤ eps := by
  cases k with
  | vertex i => exact keyPoint_vertex_near_plane he hk.1 hk.2
  | edge i j =>
    rw [keyPoint_edge_on_plane hk.1 hk.2.1 hk.2.2, abs_zero]
    exact he

theorem intern_points {verts : List (V3 F)} {dist : List F} {s : SecState F} {k : SecKey} {p : V3 F}
    (hp : p ∈ (s.intern verts dist k).1.points) : p ∈ s.points ∨ p = keyPoint verts dist k := by
  unfold SecState.intern at hp
  split at hp
  · exact Or.inl hp
  · simpa using hp

theorem sectionFace_points {P : Plane3 F} {verts : List (V3 F)} {dist : List F} {faces : List (Nat × Nat × Nat)}
    {s : SecState F} {f : Nat × Nat × Nat} {p : V3 F} (hp : p ∈ (sectionFace P verts dist faces s f).points) :
    p ∈ s.points ∨
      ∃ k ∈ faceEnds f (dist.getD f.1 0) (dist.getD f.2.1 0) (dist.getD f.2.2 0), p = keyPoint verts dist k := by
  revert hp
  refine sectionFace_cases (motive := fun s' => p ∈ s'.points → _) Or.inl fun k0 k1 pr hk _ hp => ?_
  rw [hk]
  rcases intern_points hp with h | rfl
  · rcases intern_points h with h | rfl
    · exact Or.inl h
    · exact Or.inr ⟨k0, by simp, rfl⟩
  · exact Or.inr ⟨k1, by simp, rfl⟩

/-- Every section point — hence every vertex of every curve `Mesh::section` returns — is within
    the on-plane threshold of the plane, for every mesh whose faces index its vertex list (open or
    closed, any winding, non-manifold) and every plane. -/
theorem section_points_near_plane (P : Plane3 F) (eps : F) (he : 0 ≤ eps) (verts : List (V3 F))
    (faces : List (Nat × Nat × Nat))
    (hf : ∀ f ∈ faces, f.1 < verts.length ∧ f.2.1 < verts.length ∧ f.2.2 < verts.length) :
    ∀ p ∈ (planeCrossingSegments P eps verts faces).1, |P.signedDistance p| ≤ eps := by
  -- the statement itself is an invariant of the face loop
  refine List.foldlRecOn faces (sectionFace P verts (distOf P eps verts) faces)
    (motive := fun s => ∀ p ∈ s.points, |P.signedDistance p| ≤ eps) (b := ⟨[], [], []⟩) ?_ ?_
  · exact fun _ hp => (List.not_mem_nil hp).elim
  intro s hs f hfm p hp
  rcases sectionFace_points hp with h | ⟨k, hk, rfl⟩
  · exact hs p h
  · exact keyOK_near_plane he (faceEnds_ok _ (hf f hfm) k hk)

/-! non-vacuity: the unit square split in two triangles, cut by the plane x = 1/2 -/
example : (planeCrossingSegments (⟨⟨1, 0, 0⟩, 1 / 2⟩ : Plane3 ℚ) (1 / 1000000)
    [⟨0, 0, 0⟩, ⟨1, 0, 0⟩, ⟨1, 1, 0⟩, ⟨0, 1, 0⟩] [(0, 1, 2), (0, 2, 3)]).2.length = 2 := by decide +kernel

end C13
