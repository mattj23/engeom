import Engeom.Model.Circle
import Engeom.Lemmas.Basics
import Engeom.Lemmas.RealScalar
import Engeom.Lemmas.Vec
import Mathlib.Tactic.FieldSimp
import Mathlib.Tactic.Ring
import Mathlib.Tactic.LinearCombination
/-
  C11 — Circle, arc and tangent constructions satisfy their defining constraints (at ℝ).
  Partial: ARC bounding boxes and the sweep sign and end points of the three-point arc (quadrant reasoning about
  atan2) are validated by the correspondence run, not proved; nor are the tangent branch of `intersectionsWith`,
  `lineCircle`, and perpendicularity at the points `tangentPointsTo` returns.
-/

namespace C11

open Real

theorem ccTol_pos : (0 : ℝ) < ccTol := ofRatR_pos (by decide) (by decide)
theorem collinearTol_pos : (0 : ℝ) < collinearTol := ofRatR_pos (by decide) (by decide)

theorem dist2_sq (a b : V2 ℝ) : dist2 a b * dist2 a b = (a.x - b.x) * (a.x - b.x) + (a.y - b.y) * (a.y - b.y) :=
  V2.norm_mul_self _

theorem dist2_nonneg (a b : V2 ℝ) : 0 ≤ dist2 a b := V2.norm_nonneg _

theorem dist2_xaxis (a b : ℝ) : dist2 (⟨a, 0⟩ : V2 ℝ) ⟨b, 0⟩ = |a - b| := by
  show Real.sqrt ((a - b) * (a - b) + (0 - 0) * (0 - 0)) = _
  rw [sub_self, mul_zero, add_zero, Real.sqrt_mul_self_eq_abs]

theorem cc_none_concentric (s o : Circle ℝ) (h : dist2 s.c o.c < ccTol) : s.intersectionsWith o = [] := by
  unfold Circle.intersectionsWith
  dsimp only
  rw [if_pos h]

theorem cc_none_separate (s o : Circle ℝ) (h : s.r + o.r < dist2 s.c o.c) : s.intersectionsWith o = [] := by
  unfold Circle.intersectionsWith
  dsimp only
  rw [if_pos h, ite_self]

theorem cc_none_nested (s o : Circle ℝ) (h : dist2 s.c o.c < |s.r - o.r|) : s.intersectionsWith o = [] := by
  unfold Circle.intersectionsWith
  dsimp only
  rw [sabs_eq, if_pos h, ite_self, ite_self]

/-- the five leaves of the case tree have 0, 0, 0, 1, 2 points -/
theorem cc_at_most_two (s o : Circle ℝ) : (s.intersectionsWith o).length ≤ 2 := by
  unfold Circle.intersectionsWith
  exact length_ite_le (Nat.zero_le _) (length_ite_le (Nat.zero_le _) (length_ite_le (Nat.zero_le _)
    (length_ite_le (Nat.le_succ _) (Nat.le_refl _))))

/-- the two points of `intersectionsWith`, `c + A u ± H u⊥` in the frame of the unit centre line `u`, seen from a centre
    `q = c + D u` -/
theorem normSq_frame (c q u : V2 ℝ) (A H D : ℝ) (hu : u.x * u.x + u.y * u.y = 1)
    (hx : q.x = c.x + D * u.x) (hy : q.y = c.y + D * u.y) :
    V2.normSq (V2.sub (V2.add (V2.add c (V2.smul A u)) (V2.smul H ⟨-u.y, u.x⟩)) q) = (A - D) * (A - D) + H * H ∧
    V2.normSq (V2.sub (V2.sub (V2.add c (V2.smul A u)) (V2.smul H ⟨-u.y, u.x⟩)) q) = (A - D) * (A - D) + H * H := by
  simp only [V2.normSq, V2.dot, V2.sub, V2.add, V2.smul, hx, hy]
  constructor <;> linear_combination ((A - D) * (A - D) + H * H) * hu

/-- `a`: distance from the first centre to the foot of the common chord.  The squared half-chord `r0² − a²` is
    Heron's product over `(2d)²`. -/
theorem chord_radicand_nonneg {d a r0 r1 : ℝ} (hd : 0 < d) (ha : 2 * d * a = r0 * r0 - r1 * r1 + d * d)
    (h1 : d ≤ r0 + r1) (h2 : |r0 - r1| ≤ d) : 0 ≤ r0 * r0 - a * a := by
  obtain ⟨h3, h4⟩ := abs_le.mp h2
  have heron : (2 * d) * (2 * d) * (r0 * r0 - a * a) =
      (r0 + r1 + d) * (r0 + r1 - d) * ((d + (r0 - r1)) * (d - (r0 - r1))) := by
    linear_combination (-(2 * d * a) - (r0 * r0 - r1 * r1 + d * d)) * ha
  have : 0 ≤ (2 * d) * (2 * d) * (r0 * r0 - a * a) := by
    rw [heron]
    exact mul_nonneg (mul_nonneg (add_nonneg (hd.le.trans h1) hd.le) (sub_nonneg.2 h1))
      (mul_nonneg (neg_le_iff_add_nonneg'.1 h3) (sub_nonneg.2 h4))
  exact nonneg_of_mul_nonneg_right this (mul_pos (mul_pos two_pos hd) (mul_pos two_pos hd))

/-- Crossing circles: exactly two points, each on BOTH circles.  `hd`, `h1`, `h2`, `ht` negate the branch tests of
    `intersectionsWith`, in its order: concentric, separate, nested, within `ccTol` of tangency. -/
theorem cc_points_on_both (s o : Circle ℝ) (hr0 : 0 ≤ s.r) (hr1 : 0 ≤ o.r)
    (hd : ¬ dist2 s.c o.c < ccTol) (h1 : ¬ s.r + o.r < dist2 s.c o.c) (h2 : ¬ dist2 s.c o.c < |s.r - o.r|)
    (ht : ¬ (|dist2 s.c o.c - (s.r + o.r)| < ccTol ∨ abs (dist2 s.c o.c - abs (s.r - o.r)) < ccTol)) :
    (s.intersectionsWith o).length = 2 ∧
    ∀ p ∈ s.intersectionsWith o,
      V2.normSq (V2.sub p s.c) = s.r * s.r ∧ V2.normSq (V2.sub p o.c) = o.r * o.r := by
  have hdpos : 0 < dist2 s.c o.c := ccTol_pos.trans_le (not_lt.mp hd)
  have hdsq := dist2_sq s.c o.c
  unfold Circle.intersectionsWith
  simp only [sabs_eq, if_neg hd, if_neg h1, if_neg h2, Bool.or_eq_true, decide_eq_true_eq, if_neg ht, smax_eq, sqrtR]
  -- from here on `d`, `a`, `h` are variables known only through `hdsq`, `ha`, `hsq`
  generalize dist2 s.c o.c = d at *
  have ha : 2 * d * ((s.r * s.r - o.r * o.r + d * d) / (2 * d)) = s.r * s.r - o.r * o.r + d * d :=
    mul_div_cancel₀ _ (mul_pos two_pos hdpos).ne'
  generalize (s.r * s.r - o.r * o.r + d * d) / (2 * d) = a at *
  have hh := chord_radicand_nonneg hdpos ha (not_lt.mp h1) (not_lt.mp h2)
  rw [max_eq_left hh]
  have hsq := Real.mul_self_sqrt hh
  generalize Real.sqrt (s.r * s.r - a * a) = h at *
  have hu : (o.c.x - s.c.x) / d * ((o.c.x - s.c.x) / d) + (o.c.y - s.c.y) / d * ((o.c.y - s.c.y) / d) = 1 := by
    field_simp; linear_combination -hdsq
  -- the first centre is at 0 on the axis, the second at `d`
  have on_s := normSq_frame s.c s.c ⟨(o.c.x - s.c.x) / d, (o.c.y - s.c.y) / d⟩ a h 0 hu (by simp) (by simp)
  have on_o := normSq_frame s.c o.c ⟨(o.c.x - s.c.x) / d, (o.c.y - s.c.y) / d⟩ a h d hu
    (by rw [mul_div_cancel₀ _ hdpos.ne', add_sub_cancel]) (by rw [mul_div_cancel₀ _ hdpos.ne', add_sub_cancel])
  rw [show (a - 0) * (a - 0) + h * h = s.r * s.r by linear_combination hsq] at on_s
  rw [show (a - d) * (a - d) + h * h = o.r * o.r by linear_combination hsq - ha] at on_o
  exact ⟨rfl, List.forall_mem_cons.2 ⟨⟨on_s.1, on_o.1⟩, List.forall_mem_singleton.2 ⟨on_s.2, on_o.2⟩⟩⟩

/-- Regression witness (D9): for the nested circles (0,0,5) and (1,0,1) the pre-fix code took the
    square root of a NEGATIVE number (`r₀² − a² = 25 − 156.25`), which is NaN in f64. -/
theorem cc_prefix_nested_negative_radicand :
    Circle.intersectionsWith_prefix_h (⟨⟨0, 0⟩, 5⟩ : Circle ℝ) ⟨⟨1, 0⟩, 1⟩ < 0 := by
  unfold Circle.intersectionsWith_prefix_h
  simp only [dist2_xaxis]; norm_num

theorem polar_normSq (c : V2 ℝ) (r t : ℝ) :
    V2.normSq (V2.sub ⟨c.x + r * Real.cos t, c.y + r * Real.sin t⟩ c) = r * r := by
  simp only [V2.normSq, V2.dot, V2.sub]
  linear_combination (r * r) * Real.cos_sq_add_sin_sq t

theorem tangent_on_circle (c : Circle ℝ) (p t0 t1 : V2 ℝ) (h : c.tangentPointsTo p = some (t0, t1)) :
    V2.normSq (V2.sub t0 c.c) = c.r * c.r ∧ V2.normSq (V2.sub t1 c.c) = c.r * c.r := by
  unfold Circle.tangentPointsTo at h
  dsimp only at h
  split_ifs at h
  simp only [Option.some.injEq, Prod.mk.injEq] at h
  obtain ⟨rfl, rfl⟩ := h
  exact ⟨polar_normSq _ _ _, polar_normSq _ _ _⟩

/-- Tangency, with central angle `φ = arccos (r/d)`.  About the two numbers: not assembled with `tangent_dot_formula`
    into a statement about `tangentPointsTo`. -/
theorem tangent_perpendicular_identity (r d : ℝ) (hr : 0 < r) (hd : r < d) :
    r * d * Real.cos (Real.arccos (r / d)) - r * r = 0 := by
  have hdpos : 0 < d := hr.trans hd
  have h1 : -1 ≤ r / d := neg_one_lt_zero.le.trans (div_nonneg hr.le hdpos.le)
  have h2 : r / d ≤ 1 := (div_le_one hdpos).2 hd.le
  rw [Real.cos_arccos h1 h2, mul_assoc, mul_div_cancel₀ _ hdpos.ne', sub_self]

/-- (radius) · (external point − tangent point), the quantity that must vanish -/
theorem tangent_dot_formula (r d th al : ℝ) :
    (r * Real.cos al) * (d * Real.cos th - r * Real.cos al) + (r * Real.sin al) * (d * Real.sin th - r * Real.sin al) =
      r * d * Real.cos (th - al) - r * r := by
  rw [Real.cos_sub]
  linear_combination (-(r * r)) * Real.cos_sq_add_sin_sq al

/-- Regression witness (D10): with `arcsin` instead of `arccos` the same quantity is `2√2 − 1 ≠ 0`
    for `r = 1`, `d = 3` (the two coincide only at `d = r√2`, which is all the tests use).  About that number: the
    model has no pre-fix `tangentPointsTo`. -/
theorem tangent_prefix_counterexample :
    (1 : ℝ) * 3 * Real.cos (Real.arcsin (1 / 3)) - 1 * 1 ≠ 0 := by
  rw [Real.cos_arcsin]
  -- `cos (arcsin x) = √(1 − x²)`, and `√(8/9) > 1/3`
  have h : (1 / 3 : ℝ) < √(1 - (1 / 3) ^ 2) := (Real.lt_sqrt (by norm_num)).2 (by norm_num)
  exact ne_of_gt (by linarith)

theorem cramer2 {a b c d e f : ℝ} (h : a * d - c * b ≠ 0) :
    ((e * d - f * b) / (a * d - c * b)) * a + ((a * f - c * e) / (a * d - c * b)) * b = e ∧
    ((e * d - f * b) / (a * d - c * b)) * c + ((a * f - c * e) / (a * d - c * b)) * d = f := by
  constructor <;> (rw [div_mul_eq_mul_div, div_mul_eq_mul_div, ← add_div, div_eq_iff h]; ring)

theorem equidistant_of_bisector {cx cy x0 y0 x1 y1 k : ℝ} (e : cx * (x0 - x1) + cy * (y0 - y1) = k)
    (hk : 2 * k = x0 * x0 + y0 * y0 - (x1 * x1 + y1 * y1)) :
    (cx - x0) * (cx - x0) + (cy - y0) * (cy - y0) = (cx - x1) * (cx - x1) + (cy - y1) * (cy - y1) := by
  linear_combination (-2) * e - hk

theorem from3Points_collinear_rejected (p0 p1 p2 : V2 ℝ)
    (h : |(p0.x - p1.x) * (p1.y - p2.y) - (p1.x - p2.x) * (p0.y - p1.y)| ≤
      collinearTol * (V2.norm (V2.sub p0 p1) * V2.norm (V2.sub p1 p2))) :
    Circle.from3Points p0 p1 p2 = none := by
  unfold Circle.from3Points
  dsimp only
  rw [sabs_eq, if_pos h]

theorem from3Points_exactly_collinear_rejected (p0 p1 p2 : V2 ℝ)
    (h : (p0.x - p1.x) * (p1.y - p2.y) - (p1.x - p2.x) * (p0.y - p1.y) = 0) :
    Circle.from3Points p0 p1 p2 = none := by
  apply from3Points_collinear_rejected
  rw [h, abs_zero]
  exact mul_nonneg collinearTol_pos.le (mul_nonneg (V2.norm_nonneg _) (V2.norm_nonneg _))

theorem from3Points_equidistant (p0 p1 p2 : V2 ℝ) (c : Circle ℝ) (h : Circle.from3Points p0 p1 p2 = some c) :
    V2.normSq (V2.sub c.c p0) = V2.normSq (V2.sub c.c p1) ∧ V2.normSq (V2.sub c.c p1) = V2.normSq (V2.sub c.c p2) ∧
    c.r * c.r = V2.normSq (V2.sub c.c p0) := by
  have hdet : (p0.x - p1.x) * (p1.y - p2.y) - (p1.x - p2.x) * (p0.y - p1.y) ≠ 0 := fun h0 =>
    Option.some_ne_none c (h.symm.trans (from3Points_exactly_collinear_rejected p0 p1 p2 h0))
  unfold Circle.from3Points at h
  dsimp only at h
  split_ifs at h
  simp only [Option.some.injEq] at h
  subst h
  -- the code's centre is Cramer's solution of the two perpendicular-bisector equations
  obtain ⟨e1, e2⟩ := cramer2 (e := (p0.x * p0.x + p0.y * p0.y - (p1.x * p1.x + p1.y * p1.y)) / 2)
    (f := (p1.x * p1.x + p1.y * p1.y - p2.x * p2.x - p2.y * p2.y) / 2) hdet
  simp only [V2.normSq, V2.dot, V2.sub]
  refine ⟨equidistant_of_bisector e1 (by ring), equidistant_of_bisector e2 (by ring), ?_⟩
  exact Real.mul_self_sqrt (add_nonneg (mul_self_nonneg _) (mul_self_nonneg _))

theorem arc_length_fraction_agree (a : Arc ℝ) (f : ℝ) (hl : a.length ≠ 0) :
    a.pointAtLength (f * a.length) = a.pointAtFraction f := by
  unfold Arc.pointAtLength
  rw [mul_div_assoc, div_self hl, mul_one]

theorem pointAtAngle_eq (c : Circle ℝ) (t : ℝ) :
    c.pointAtAngle t = ⟨c.c.x + c.r * Real.cos t, c.c.y + c.r * Real.sin t⟩ := by
  rw [Circle.pointAtAngle, cosR, sinR, zero_mul, zero_mul, sub_zero, add_zero]

/-- The cached bounding box of a circle contains every point of the circle. -/
theorem circleAabb_contains (c : Circle ℝ) (hr : 0 ≤ c.r) (t : ℝ) :
    (circleAabb c).1.x ≤ (c.pointAtAngle t).x ∧ (c.pointAtAngle t).x ≤ (circleAabb c).2.x ∧
    (circleAabb c).1.y ≤ (c.pointAtAngle t).y ∧ (c.pointAtAngle t).y ≤ (circleAabb c).2.y := by
  simp only [circleAabb, pointAtAngle_eq]
  have c1 := mul_le_mul_of_nonneg_left (Real.neg_one_le_cos t) hr
  have c2 := mul_le_mul_of_nonneg_left (Real.cos_le_one t) hr
  have s1 := mul_le_mul_of_nonneg_left (Real.neg_one_le_sin t) hr
  have s2 := mul_le_mul_of_nonneg_left (Real.sin_le_one t) hr
  refine ⟨?_, ?_, ?_, ?_⟩ <;> linarith

/-- The box touches the circle on all four sides. -/
theorem circleAabb_touches (c : Circle ℝ) :
    (c.pointAtAngle 0).x = (circleAabb c).2.x ∧ (c.pointAtAngle (π / 2)).y = (circleAabb c).2.y ∧
    (c.pointAtAngle π).x = (circleAabb c).1.x ∧ (c.pointAtAngle (3 * π / 2)).y = (circleAabb c).1.y := by
  have h3 : Real.sin (3 * π / 2) = -1 := by
    rw [show 3 * π / 2 = π + π / 2 by ring, Real.sin_add]; simp
  simp only [circleAabb, pointAtAngle_eq, Real.cos_zero, Real.sin_pi_div_two, Real.cos_pi, h3]
  refine ⟨?_, ?_, ?_, ?_⟩ <;> ring

/-! `hd` of `cc_points_on_both` at centres 5 apart (all four hypotheses, with radii: last example of Props/C15B) -/
example : ¬ dist2 (⟨0, 0⟩ : V2 ℝ) ⟨5, 0⟩ < ccTol := by
  rw [dist2_xaxis, not_lt]; unfold ccTol; rw [ofRatR]; norm_num [Gen.CC_TOL_num, Gen.CC_TOL_den]

end C11
