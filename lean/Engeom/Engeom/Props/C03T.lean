import Engeom.Generated.RsC03
/- C03 — translation tie for src/common/surface_point.rs (generic in the dimension; translated at dimension 3). -/
namespace C03T
set_option linter.unusedSectionVars false
variable {α : Type} [Add α] [Sub α] [Mul α] [Div α] [Neg α] [LT α] [LE α]
  [DecidableLT α] [DecidableLE α] [OfNat α 0] [OfNat α 1] [OfNat α 2] [Scalar α]

theorem SurfacePoint_at_distance_eq (s : SP3 α) (d : α) : GenRs.SurfacePoint_at_distance s d = s.atDistance d := rfl
theorem SurfacePoint_scalar_projection_eq (s : SP3 α) (q : V3 α) :
    GenRs.SurfacePoint_scalar_projection s q = s.scalarProjection q := rfl
theorem SurfacePoint_projection_eq (s : SP3 α) (q : V3 α) : GenRs.SurfacePoint_projection s q = s.projection q := rfl
theorem SurfacePoint_reversed_eq (s : SP3 α) : GenRs.SurfacePoint_reversed s = s.reversed := rfl
theorem SurfacePoint_planar_distance_eq (s : SP3 α) (q : V3 α) :
    GenRs.SurfacePoint_planar_distance s q = V3.norm (V3.sub (s.projection q) q) := rfl
theorem SurfacePoint_shift_eq (s : SP3 α) (d : α) : GenRs.SurfacePoint_shift s d = ⟨s.atDistance d, s.normal⟩ := rfl
end C03T
