import Engeom.Props.C08
import Engeom.Props.C08T
/-
  C08 — stated about the REGENERATED code.  `to_wpr` (src/geom3/align3/rotations.rs, over ℝ): away from gimbal lock it
  recovers the Euler angles of `Rx·Ry·Rz` exactly; at the north pole (`ry = π/2` only) the angles it returns rebuild the
  same matrix.  (`RcParams3::from_initial` starts every 3-D alignment from these angles.)  Then the guard of
  `point_point_jacobian`, and three fragments (`set`, `compute`, `from_rotation`) regenerated as identities: there the
  theorem only fixes WHICH argument comes back; the rest is what the translator's pattern enforces, and is trusted.
-/
namespace C08U
open Real

theorem to_wpr_recovers_euler_angles (rx ry rz : ℝ) (hx : -π < rx ∧ rx ≤ π) (hz : -π < rz ∧ rz ≤ π)
    (hy : -(π / 2) < ry ∧ ry < π / 2) (hc : wprEps ≤ Real.cos ry) :
    GenRs.to_wpr (eulerMat rx ry rz) = (rx, ry, rz) := by
  rw [C08T.to_wpr_eq]; exact C08.toWpr_eulerMat rx ry rz hx hz hy hc

theorem to_wpr_gimbal_roundtrip (rx rz : ℝ) :
    let m := eulerMat rx (π / 2) rz
    eulerMat (GenRs.to_wpr m).1 (GenRs.to_wpr m).2.1 (GenRs.to_wpr m).2.2 = m := by
  intro m
  rw [C08T.to_wpr_eq]; exact C08.toWpr_gimbal rx rz

theorem pp_coincident_iff (m : V3 ℝ) : GenRs.pp_coincident m = true ↔ V3.normSq m < 1 / 10 ^ 16 := by
  unfold GenRs.pp_coincident
  rw [ofRatR, decide_eq_true_iff]
  norm_num

/-- `1e-16` bounds the SQUARED separation (`m.norm_squared()`), i.e. a separation of `1e-8`; the literal is the regenerated
    test's own, not the model's `ppTol` -/
theorem pp_coincident_only_below_1e_8 (m : V3 ℝ) (h : (1 : ℝ) / 10 ^ 16 ≤ V3.normSq m) :
    GenRs.pp_coincident m = false :=
  Bool.eq_false_iff.2 fun hc => not_lt.2 h ((pp_coincident_iff m).1 hc)

theorem pp_coincident_at_zero : GenRs.pp_coincident (⟨0, 0, 0⟩ : V3 ℝ) = true :=
  (pp_coincident_iff _).2 (by norm_num [V3.normSq, V3.dot])

/-- `RcParams2::set` / `RcParams3::set` (whole-body patterns, which allow `compute()` as the only other statement) -/
theorem set_stores_the_given_parameters (x : ℝ) : GenRs.rc2_set_stored x = x ∧ GenRs.rc3_set_stored x = x := ⟨rfl, rfl⟩

/-- last statement of `compute()`; `a2`, `a3` are the action of the freshly built transform on a point.  The Jacobian
    rows take their lever arms from this cached centre. -/
theorem current_rc_is_the_image_of_the_centre (a3 : V3 ℝ → V3 ℝ) (c3 : V3 ℝ) (a2 : V2 ℝ → V2 ℝ) (c2 : V2 ℝ) :
    GenRs.rc3_current_rc a3 c3 = a3 c3 ∧ GenRs.rc2_current_rc a2 c2 = a2 c2 := ⟨rfl, rfl⟩

/-- `RotationMatrices::from_rotation` (whole-body pattern): the three angles handed on are, by the pattern, what `to_wpr`
    returned for the rotation, however small -/
theorem from_rotation_uses_the_decomposed_angles (w p r : ℝ) : GenRs.from_rotation_angles w p r = (w, p, r) := rfl

end C08U
