import Engeom.Props.C14
import Engeom.Props.C14T
import Mathlib.Order.Basic
import Mathlib.Order.Defs.LinearOrder
/-
  C14 — "Add, Remove and Keep behave as union, difference and intersection with the faces satisfying the
  criterion" stated about the REGENERATED bodies of `TriangleFilter::mutate` and `mutate_pass_list`
  (src/geom3/mesh/filtering.rs): the membership theorems of Props/C14 about the model, carried over by the
  membership equalities of Props/C14T.
-/
namespace C14U

theorem mutate_add (indices : List Nat) (n : Nat) (P : Nat → Bool) (i : Nat) :
    i ∈ GenRs.mutate indices n .add P ↔ i ∈ indices ∨ (i < n ∧ P i = true) :=
  (C14T.mutate_mem ⟨n, indices⟩ .add P i).trans (C14.mutate_add ⟨n, indices⟩ P i)

theorem mutate_remove (indices : List Nat) (n : Nat) (P : Nat → Bool) (i : Nat) :
    i ∈ GenRs.mutate indices n .remove P ↔ i ∈ indices ∧ P i = false :=
  (C14T.mutate_mem ⟨n, indices⟩ .remove P i).trans (C14.mutate_remove ⟨n, indices⟩ P i)

theorem mutate_keep (indices : List Nat) (n : Nat) (P : Nat → Bool) (i : Nat) :
    i ∈ GenRs.mutate indices n .keep P ↔ i ∈ indices ∧ P i = true :=
  (C14T.mutate_mem ⟨n, indices⟩ .keep P i).trans (C14.mutate_keep ⟨n, indices⟩ P i)

/-- The pass list: the faces found to satisfy a near-mesh criterion.  The face count `0` in `⟨0, indices⟩` is arbitrary:
    `mutate_pass_list` does not read it. -/
theorem mutate_pass_list_add (indices pass : List Nat) (i : Nat) :
    i ∈ GenRs.mutate_pass_list indices .add pass ↔ i ∈ indices ∨ i ∈ pass :=
  (C14T.mutate_pass_list_mem ⟨0, indices⟩ .add pass i).trans (C14.mutatePassList_add ⟨0, indices⟩ pass i)

theorem mutate_pass_list_remove (indices pass : List Nat) (i : Nat) :
    i ∈ GenRs.mutate_pass_list indices .remove pass ↔ i ∈ indices ∧ i ∉ pass :=
  (C14T.mutate_pass_list_mem ⟨0, indices⟩ .remove pass i).trans (C14.mutatePassList_remove ⟨0, indices⟩ pass i)

theorem mutate_pass_list_keep (indices pass : List Nat) (i : Nat) :
    i ∈ GenRs.mutate_pass_list indices .keep pass ↔ i ∈ indices ∧ i ∈ pass :=
  (C14T.mutate_pass_list_mem ⟨0, indices⟩ .keep pass i).trans (C14.mutatePassList_keep ⟨0, indices⟩ pass i)

theorem keep_nothing_selects_nothing (indices : List Nat) : GenRs.mutate_pass_list indices .keep [] = [] :=
  List.eq_nil_iff_forall_not_mem.mpr fun i hi =>
    List.not_mem_nil ((mutate_pass_list_keep indices [] i).mp hi).2

/-- `TriangleFilter::facing`, the per-face predicate: `n` is the angle between the face normal and the given direction
    when the face has a normal (`Vector::angle` depends on the DIRECTION of its arguments only, which is why the
    fragment takes the angle, not the vectors). -/
theorem facing_iff {α : Type} [LinearOrder α] (n : Option α) (limit : α) :
    GenRs.facing_predicate n limit = true ↔ ∃ a, n = some a ∧ a < limit := by
  cases n <;> simp [GenRs.facing_predicate]

section Facing
variable {α : Type} [LinearOrder α] [Add α] [Sub α] [Mul α] [Div α] [Neg α]
  [OfNat α 0] [OfNat α 1] [OfNat α 2] [Scalar α]

theorem facing_monotone (n : Option α) {l l' : α} (h : l ≤ l') (hp : GenRs.facing_predicate n l = true) :
    GenRs.facing_predicate n l' = true := by
  rw [facing_iff] at hp ⊢
  obtain ⟨a, e, ha⟩ := hp
  exact ⟨a, e, lt_of_lt_of_le ha h⟩
end Facing

end C14U
