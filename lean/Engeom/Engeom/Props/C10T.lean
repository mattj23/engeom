import Engeom.Generated.RsC10
import Engeom.Generated.Consts
import Engeom.Lemmas.Loops
import Mathlib.Order.Basic
import Mathlib.Order.Defs.LinearOrder
/-
  C10 — translation tie, with a theorem about the REGENERATED code: `find_tmax_circle` (src/airfoil/helpers.rs: the
  scan for the inscribed circle of largest diameter, the "maximum thickness" the analysis reports) and the
  end-of-section test of `advance_search_along_ray` (src/airfoil/camber.rs).
-/
namespace C10T
set_option linter.unusedSectionVars false

section Max
variable {α : Type} [LinearOrder α] [Add α] [Sub α] [Mul α] [Div α] [Neg α]
  [OfNat α 0] [OfNat α 1] [OfNat α 2] [Scalar α]

/-- in the shape `Loops.foldl_first_max` takes -/
theorem find_tmax_eq (l : List (ICircle α)) :
    GenRs.find_tmax_circle l = (l.foldl (fun (st : α × Option (ICircle α)) c =>
      if st.1 < c.radius * 2 then (c.radius * 2, some c) else st) (0, none)).2 := rfl

/-- the circle returned by the regenerated `find_tmax_circle` is a station and no station has a
    larger diameter; `none` is returned only when no station has a positive diameter -/
theorem find_tmax_is_max (l : List (ICircle α)) :
    (∀ m, GenRs.find_tmax_circle l = some m → m ∈ l ∧ ∀ c ∈ l, c.radius * 2 ≤ m.radius * 2) ∧
    (GenRs.find_tmax_circle l = none → ∀ c ∈ l, c.radius * 2 ≤ 0) := by
  rw [find_tmax_eq]
  obtain ⟨_, hall, hrec⟩ := Loops.foldl_first_max (fun c : ICircle α => c.radius * 2) some l ((0 : α), none)
  -- the final state is the initial `(0, none)` or `(diameter, some c)` of a station `c`
  rcases hrec with e | ⟨c, hc, e⟩ <;> rw [e] at hall ⊢
  · exact ⟨fun m hm => (nomatch hm), fun _ => hall⟩
  · exact ⟨fun m hm => by cases hm; exact ⟨hc, hall⟩, fun hn => (nomatch hn)⟩
end Max

section Tie
variable {α : Type} [Add α] [Sub α] [Mul α] [Div α] [Neg α] [LT α] [LE α]
  [DecidableLT α] [DecidableLE α] [OfNat α 0] [OfNat α 1] [OfNat α 2] [Scalar α]

/-- the search along the camber ends when the section reaches less than a quarter radius beyond the
    last inscribed circle -/
theorem advance_end_test_eq (distance radius : α) :
    GenRs.advance_end_test distance radius
      = decide (distance - radius < radius * Scalar.ofRat Gen.ADV_END_num Gen.ADV_END_den) := rfl
end Tie
end C10T
