import Engeom.Model.Airfoil
import Engeom.Generated.Consts
import Engeom.Lemmas.RealScalar
import Mathlib.Tactic.Linarith
import Mathlib.Tactic.Ring
import Mathlib.Tactic.LinearCombination
/-
  C10 — Airfoil analysis, PARTIAL: the logic core (station container, step schedule, bisection) and the generator
  of the test family; the geometric guarantees of the searches (inscribed circles, the medial axis recovered) are
  decided per case by the oracle of the correspondence run.
-/

namespace C10

theorem oCircle_reverse_reverse (c : OCircle) : c.reverse.reverse = c := by
  cases c; simp [OCircle.reverse]

/-- all spanning rays point the same way -/
def SameSense (l : List OCircle) : Prop := ∀ a ∈ l, ∀ b ∈ l, a.up = b.up

theorem stored_id (o : OrientedCircles) (c : OCircle) : (o.stored c).id = c.id := by
  unfold OrientedCircles.stored
  cases o.last with
  | none => rfl
  | some l => dsimp only; split <;> rfl

theorem push_circles (o : OrientedCircles) (c : OCircle) :
    (o.push c).circles = if o.reversed then o.stored c :: o.circles else o.circles ++ [o.stored c] :=
  apply_ite OrientedCircles.circles ..

theorem push_reversed (o : OrientedCircles) (c : OCircle) : (o.push c).reversed = o.reversed := by
  unfold OrientedCircles.push
  split <;> rfl

/-- `last` is always the most recently pushed station (whichever end is the working end) -/
theorem last_push (o : OrientedCircles) (c : OCircle) : (o.push c).last = some (o.stored c) := by
  unfold OrientedCircles.last
  rw [push_reversed, push_circles]
  cases o.reversed <;> simp

theorem last_mem {o : OrientedCircles} {l : OCircle} (h : o.last = some l) : l ∈ o.circles := by
  unfold OrientedCircles.last at h
  split at h
  · exact List.mem_of_mem_head? h
  · exact List.mem_of_getLast? h

theorem last_eq_none {o : OrientedCircles} (h : o.last = none) : o.circles = [] := by
  unfold OrientedCircles.last at h
  split at h
  · exact List.head?_eq_none_iff.mp h
  · exact List.getLast?_eq_none_iff.mp h

theorem stored_up {o : OrientedCircles} {l : OCircle} (h : o.last = some l) (c : OCircle) :
    (o.stored c).up = l.up := by
  unfold OrientedCircles.stored
  rw [h]
  dsimp only
  split_ifs with hne
  · exact (Bool.eq_not_of_ne (bne_iff_ne.mp hne)).symm
  · exact (not_ne_iff.mp (mt bne_iff_ne.mpr hne)).symm

theorem mem_push {o : OrientedCircles} {c a : OCircle} :
    a ∈ (o.push c).circles ↔ a = o.stored c ∨ a ∈ o.circles := by
  rw [push_circles]
  cases o.reversed <;> simp [or_comm]

/-- a circle whose ray opposes the working end is flipped before it is stored -/
theorem push_sameSense {o : OrientedCircles} (h : SameSense o.circles) (c : OCircle) :
    SameSense (o.push c).circles := by
  have key : ∀ a ∈ o.circles, a.up = (o.stored c).up := fun a ha => by
    cases hl : o.last with
    | none => rw [last_eq_none hl] at ha; cases ha
    | some l => rw [stored_up hl, h a ha l (last_mem hl)]
  intro a ha b hb
  rcases mem_push.mp ha with rfl | ha' <;> rcases mem_push.mp hb with rfl | hb'
  exacts [rfl, (key b hb').symm, key a ha', h a ha' b hb']

theorem push_ids (o : OrientedCircles) (c : OCircle) :
    (o.push c).circles.map OCircle.id =
      if o.reversed then c.id :: o.circles.map OCircle.id else o.circles.map OCircle.id ++ [c.id] := by
  rw [push_circles]
  split <;> simp [stored_id]

theorem foldl_push_ids (cs : List OCircle) (o : OrientedCircles) :
    (cs.foldl OrientedCircles.push o).circles.map OCircle.id =
      if o.reversed then (cs.map OCircle.id).reverse ++ o.circles.map OCircle.id
      else o.circles.map OCircle.id ++ cs.map OCircle.id := by
  induction cs generalizing o with
  | nil => cases o.reversed <;> simp
  | cons c t ih =>
    rw [List.foldl_cons, ih, push_reversed, push_ids]
    cases o.reversed <;> simp

/-- The container clauses, for `create r` followed by pushes: `take_circles` returns the stations (ids) in push order, reversed
    for `r = true`; all rays point one way (`pushAll_sameSense`). -/
theorem pushAll_ids (r : Bool) (cs : List OCircle) :
    ((cs.foldl OrientedCircles.push (OrientedCircles.create r)).circles.map OCircle.id) =
      if r then (cs.map OCircle.id).reverse else cs.map OCircle.id := by
  rw [foldl_push_ids]
  cases r <;> simp [OrientedCircles.create]

theorem pushAll_sameSense (r : Bool) (cs : List OCircle) :
    SameSense (cs.foldl OrientedCircles.push (OrientedCircles.create r)).circles :=
  List.foldlRecOn cs OrientedCircles.push (motive := fun o => SameSense o.circles)
    (fun _ ha => absurd ha List.not_mem_nil) fun _ h c _ => push_sameSense h c

/-- `reverse_inscribed_circles` twice is the identity -/
theorem reverseInscribed_involutive (l : List OCircle) : reverseInscribed (reverseInscribed l) = l := by
  unfold reverseInscribed
  rw [← List.map_reverse, List.reverse_reverse, List.map_map,
    show OCircle.reverse ∘ OCircle.reverse = id from funext oCircle_reverse_reverse, List.map_id]

theorem reverseInscribed_ids (l : List OCircle) :
    (reverseInscribed l).map OCircle.id = (l.map OCircle.id).reverse := by
  unfold reverseInscribed
  rw [List.map_map, ← List.map_reverse]
  rfl

theorem reverseInscribed_sameSense {l : List OCircle} (h : SameSense l) : SameSense (reverseInscribed l) := by
  intro a ha b hb
  obtain ⟨a', ha', rfl⟩ := List.mem_map.mp ha
  obtain ⟨b', hb', rfl⟩ := List.mem_map.mp hb
  exact congrArg (!·) (h a' (List.mem_reverse.mp ha') b' (List.mem_reverse.mp hb'))

/-- the REGENERATED constants have the values `advanceFractions` hard-codes (`20`, `3`, `4`) and `advance_at_most_six`
    starts from (`1 4`): nothing else links the two.  `ADV_END` is read by `C10T.advance_end_test_eq` only. -/
theorem advance_constants :
    (Gen.ADV_START_num, Gen.ADV_START_den) = (1, 4) ∧ (Gen.ADV_MIN_num, Gen.ADV_MIN_den) = (1, 20) ∧
    (Gen.ADV_SHRINK_num, Gen.ADV_SHRINK_den) = (3, 4) ∧ (Gen.ADV_END_num, Gen.ADV_END_den) = (1, 4) := by
  decide

/-- from 1/4 of the last radius, times 3/4 after every failed attempt, until the fraction is 1/20 or below: the test
    `20 * num ≤ den` ends the list, not the fuel `100` -/
theorem advance_at_most_six :
    advanceFractions 100 1 4 = [(1, 4), (3, 16), (9, 64), (27, 256), (81, 1024), (243, 4096)] := by
  decide

section bisect
variable (closest : V2 ℝ → V2 ℝ) (origin dir : V2 ℝ)

/-- the two limits are ordered fractions of the ray -/
def Bracket (s : BisectSt ℝ) : Prop := 0 ≤ s.negF ∧ s.negF ≤ s.posF ∧ s.posF ≤ 1

theorem half_eq : (Scalar.ofRat 1 2 : ℝ) = 1 / 2 := by rw [ofRatR]; norm_num

/-- the midpoint as the code forms it -/
theorem mid_between {a b : ℝ} (h : a ≤ b) :
    a ≤ (b + a) * (Scalar.ofRat 1 2 : ℝ) ∧ (b + a) * (Scalar.ofRat 1 2 : ℝ) ≤ b := by
  rw [half_eq]; constructor <;> linarith

theorem step_ends (s : BisectSt ℝ) :
    let s' := bisectStep closest origin dir s
    let f := (s.posF + s.negF) * (Scalar.ofRat 1 2 : ℝ)
    (s'.posF = f ∧ s'.negF = s.negF) ∨ (s'.posF = s.posF ∧ s'.negF = f) := by
  unfold bisectStep; dsimp only
  split
  exacts [Or.inl ⟨rfl, rfl⟩, Or.inr ⟨rfl, rfl⟩]

theorem step_gap (s : BisectSt ℝ) :
    (bisectStep closest origin dir s).posF - (bisectStep closest origin dir s).negF =
      (s.posF - s.negF) / 2 := by
  rcases step_ends closest origin dir s with ⟨e1, e2⟩ | ⟨e1, e2⟩ <;> rw [e1, e2, half_eq] <;> ring

theorem step_bounds (s : BisectSt ℝ) (h : Bracket s) : Bracket (bisectStep closest origin dir s) := by
  obtain ⟨h0, h1, h2⟩ := h
  have m := mid_between h1
  rcases step_ends closest origin dir s with ⟨e1, e2⟩ | ⟨e1, e2⟩ <;> rw [Bracket, e1, e2]
  exacts [⟨h0, m.1, m.2.trans h2⟩, ⟨h0.trans m.1, m.2, h2⟩]

/-- If the fuel covers `log₂(‖dir‖ / tol)` passes, the loop ends with a bracket no longer than `tol` along the ray. -/
theorem loop_converges (tol : ℝ) : ∀ (fuel : Nat) (s : BisectSt ℝ),
    Bracket s → (s.posF - s.negF) * V2.norm dir ≤ tol * 2 ^ fuel →
    let r := bisectLoop closest origin dir tol fuel s
    (r.posF - r.negF) * V2.norm dir ≤ tol ∧ Bracket r
  | 0, s, hb, hg => by
    simp only [bisectLoop, pow_zero, mul_one] at hg ⊢
    exact ⟨hg, hb⟩
  | fuel + 1, s, hb, hg => by
    unfold bisectLoop
    split_ifs with hc
    · refine loop_converges tol fuel _ (step_bounds closest origin dir s hb) ?_
      rwa [step_gap, div_mul_eq_mul_div, div_le_iff₀ two_pos, mul_assoc, ← pow_succ]
    · exact ⟨not_lt.mp hc, hb⟩

/-- `f` is the fraction along the ray; the centre `inscribed_from_spanning_ray` returns is `rayAt origin dir f`
    (`inscribedFromRay`, which no theorem mentions) -/
theorem centre_in_bracket (tol : ℝ) (fuel : Nat)
    (hf : V2.norm dir ≤ tol * 2 ^ fuel) :
    let s := bisectLoop closest origin dir tol fuel (bisectInit origin dir)
    let f := (s.posF + s.negF) * (Scalar.ofRat 1 2 : ℝ)
    s.negF ≤ f ∧ f ≤ s.posF ∧ (s.posF - s.negF) * V2.norm dir ≤ tol := by
  -- the initial bracket is the whole ray, `negF = 0`, `posF = 1`
  have h := loop_converges closest origin dir tol fuel (bisectInit origin dir) ⟨le_rfl, zero_le_one, le_rfl⟩
    (by simpa [bisectInit] using hf)
  obtain ⟨hg, -, h1, -⟩ := h
  exact ⟨(mid_between h1).1, (mid_between h1).2, hg⟩

end bisect

/-- The test family, the envelope of circles along a camber curve: both contact points are exactly one radius from the
    camber point (for a unit tangent/normal frame and a radius law with |r'| ≤ 1): they lie on the generating circle.  That
    the circle is tangent to the generated section there is not stated. -/
theorem envelope_contact_distance (c t n : V2 ℝ) (r dr : ℝ) (upper : Bool)
    (ht : V2.dot t t = 1) (hn : V2.dot n n = 1) (htn : V2.dot t n = 0) (hdr : dr * dr ≤ 1) :
    V2.normSq (V2.sub (envelopePoint c t n r dr upper) c) = r * r := by
  -- whichever contact point, the normal offset `w = ±√(1 − r'²)` has `w² = 1 − r'²`
  obtain ⟨w, hw, hp⟩ : ∃ w : ℝ, w * w = 1 - dr * dr ∧
      envelopePoint c t n r dr upper = V2.add c (V2.smul r (V2.add (V2.smul (-dr) t) (V2.smul w n))) := by
    have h := Real.mul_self_sqrt (show 0 ≤ 1 - dr * dr by linarith)
    cases upper
    exacts [⟨-Real.sqrt (1 - dr * dr), by rw [neg_mul_neg, h], rfl⟩, ⟨Real.sqrt (1 - dr * dr), h, rfl⟩]
  rw [hp]
  simp only [V2.normSq, V2.dot, V2.sub, V2.add, V2.smul] at *
  linear_combination (r * r * dr * dr) * ht + (r * r * w * w) * hn - (2 * r * r * dr * w) * htn + (r * r) * hw

end C10
