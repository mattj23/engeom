import Engeom.Generated.RsC02
import Engeom.Lemmas.RealScalar
import Engeom.Lemmas.LawfulVec
import Mathlib.Tactic.Linarith
/-
  C02 — translation tie, and (there is no Props/C02U) the theorems over ℝ about the regenerated fragments.
  The acceptance test of `Mesh::project_with_tol` on the angle between the face normal and the offset of the
  test point from its projection (src/geom3/mesh/queries.rs: `angle < max_angle || angle > PI - max_angle`) is the
  model's `angleFilter` for every scalar type.  Over ℝ an angle `a` passes iff `π − a` passes: the per-point result
  of `project_with_tol` / `indices_in_tol` does not depend on the mesh's winding.
-/
namespace C02T
set_option linter.unusedSectionVars false

section
variable {α : Type} [Add α] [Sub α] [Mul α] [Div α] [Neg α] [LT α] [LE α]
  [DecidableLT α] [DecidableLE α] [OfNat α 0] [OfNat α 1] [OfNat α 2] [Scalar α]

theorem angle_filter_eq (a m : α) : GenRs.angle_filter a m = angleFilter a m := rfl
end

/-- an angle passes iff it is within the tolerance of the normal (`a < m`) or of its opposite (`π − a < m`) -/
theorem angleFilter_iff (a m : ℝ) :
    angleFilter a m = true ↔ a < m ∨ Real.pi - a < m := by
  unfold angleFilter
  rw [piR, Bool.or_eq_true, decide_eq_true_eq, decide_eq_true_eq, sub_lt_comm]

theorem angleFilter_flip (a m : ℝ) : angleFilter (Real.pi - a) m = angleFilter a m := by
  rw [Bool.eq_iff_iff, angleFilter_iff, angleFilter_iff, sub_sub_cancel, or_comm]

theorem angle_filter_flip_regenerated (a m : ℝ) : GenRs.angle_filter (Real.pi - a) m = GenRs.angle_filter a m := by
  rw [angle_filter_eq, angle_filter_eq]; exact angleFilter_flip a m

example : angleFilter (3 : ℝ) 2 = true := by
  rw [angleFilter_iff]; right
  have := Real.pi_le_four
  linarith

/-- The offset whose angle is filtered.  `tol_offset` is regenerated only while the source re-binds `point` to
    `transform * point` before it projects: `q` is then the MOVED point, in the frame of the foot. -/
theorem tol_offset_eq (q foot : V3 ℝ) : GenRs.tol_offset q foot = V3.sub q foot := rfl

/-- translations only: a rotation would rotate the offset with the face normal, and the angle between them is what is
    filtered -/
theorem tol_offset_translation_invariant (q foot t : V3 ℝ) :
    GenRs.tol_offset (V3.add q t) (V3.add foot t) = GenRs.tol_offset q foot :=
  V3.add_sub_add_right q foot t

/-- `Curve2::dist_to_point`.  The statement only unfolds the `vdist foot q` the translator emits; that there is no
    floor and no snapping to zero below a tolerance is what its whole-body pattern enforces. -/
theorem curve_dist_is_distance_to_the_foot (foot q : V2 ℝ) :
    GenRs.curve_dist_value foot q = Real.sqrt ((foot.x - q.x) * (foot.x - q.x) + (foot.y - q.y) * (foot.y - q.y)) ∧
    0 ≤ GenRs.curve_dist_value foot q :=
  ⟨rfl, Real.sqrt_nonneg _⟩

theorem curve_dist_positive_off_the_foot (foot q : V2 ℝ) (h : foot ≠ q) : 0 < GenRs.curve_dist_value foot q := by
  rw [(curve_dist_is_distance_to_the_foot foot q).1]
  -- the sum under the root is `dot (foot − q) (foot − q)` unfolded, positive unless `foot = q`
  exact Real.sqrt_pos.mpr ((LawfulVec.dot_self_nonneg (VecLike.sub foot q)).lt_of_ne' fun h0 =>
    h (LawfulVec.eq_of_dot_sub_self foot q h0))

/-- `Mesh::surf_closest_to`.  The statement only fixes which argument comes back; that it is the unit normal of the
    face the closest point was found on is what the translator's pattern enforces. -/
theorem surf_closest_normal_is_the_face_normal (f q q' foot foot' : V3 ℝ) :
    GenRs.surf_closest_normal f q foot = f ∧ GenRs.surf_closest_normal f q foot = GenRs.surf_closest_normal f q' foot' :=
  ⟨rfl, rfl⟩

end C02T
