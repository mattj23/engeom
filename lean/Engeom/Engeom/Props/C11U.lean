import Engeom.Props.C11
import Engeom.Props.C11T
/-
  C11 — the property theorems stated about the REGENERATED functions of src/geom2/circle2.rs (over ℝ): each is
  the theorem of Props/C11 about the model function, carried over by the equality of Props/C11T
  (`tangent_none_iff_not_outside` alone is proved on the regenerated definition itself).
-/
namespace C11U
open Real

theorem cc_none_concentric (s o : Circle ℝ) (h : dist2 s.c o.c < ccTol) : GenRs.Circle2_intersections_with s o = [] := by
  rw [C11T.intersections_with_eq_real]; exact C11.cc_none_concentric s o h
theorem cc_none_separate (s o : Circle ℝ) (h : s.r + o.r < dist2 s.c o.c) : GenRs.Circle2_intersections_with s o = [] := by
  rw [C11T.intersections_with_eq_real]; exact C11.cc_none_separate s o h
theorem cc_none_nested (s o : Circle ℝ) (h : dist2 s.c o.c < |s.r - o.r|) : GenRs.Circle2_intersections_with s o = [] := by
  rw [C11T.intersections_with_eq_real]; exact C11.cc_none_nested s o h
theorem cc_at_most_two (s o : Circle ℝ) : (GenRs.Circle2_intersections_with s o).length ≤ 2 := by
  rw [C11T.intersections_with_eq_real]; exact C11.cc_at_most_two s o

/-- crossing circles; the hypotheses are those of `C11.cc_points_on_both` -/
theorem cc_points_on_both (s o : Circle ℝ) (hr0 : 0 ≤ s.r) (hr1 : 0 ≤ o.r)
    (hd : ¬ dist2 s.c o.c < ccTol) (h1 : ¬ s.r + o.r < dist2 s.c o.c) (h2 : ¬ dist2 s.c o.c < |s.r - o.r|)
    (ht : ¬ (|dist2 s.c o.c - (s.r + o.r)| < ccTol ∨ abs (dist2 s.c o.c - abs (s.r - o.r)) < ccTol)) :
    (GenRs.Circle2_intersections_with s o).length = 2 ∧
    ∀ p ∈ GenRs.Circle2_intersections_with s o,
      V2.normSq (V2.sub p s.c) = s.r * s.r ∧ V2.normSq (V2.sub p o.c) = o.r * o.r := by
  rw [C11T.intersections_with_eq_real]; exact C11.cc_points_on_both s o hr0 hr1 hd h1 h2 ht

theorem tangent_on_circle (c : Circle ℝ) (p t0 t1 : V2 ℝ) (h : GenRs.Circle2_tangent_points_to c p = some (t0, t1)) :
    V2.normSq (V2.sub t0 c.c) = c.r * c.r ∧ V2.normSq (V2.sub t1 c.c) = c.r * c.r := by
  rw [C11T.tangent_points_to_eq] at h; exact C11.tangent_on_circle c p t0 t1 h

/-- a point ON the perimeter gets no tangent either -/
theorem tangent_none_iff_not_outside (c : Circle ℝ) (p : V2 ℝ) :
    GenRs.Circle2_tangent_points_to c p = none ↔ dist2 c.c p ≤ c.r := by
  unfold GenRs.Circle2_tangent_points_to
  dsimp only
  split_ifs with h <;> simp [h]

theorem from_3_points_equidistant (p0 p1 p2 : V2 ℝ) (c : Circle ℝ) (h : GenRs.Circle2_from_3_points p0 p1 p2 = some c) :
    V2.normSq (V2.sub c.c p0) = V2.normSq (V2.sub c.c p1) ∧ V2.normSq (V2.sub c.c p1) = V2.normSq (V2.sub c.c p2) ∧
    c.r * c.r = V2.normSq (V2.sub c.c p0) := by
  rw [C11T.from_3_points_eq] at h; exact C11.from3Points_equidistant p0 p1 p2 c h
theorem from_3_points_collinear_rejected (p0 p1 p2 : V2 ℝ)
    (h : |(p0.x - p1.x) * (p1.y - p2.y) - (p1.x - p2.x) * (p0.y - p1.y)| ≤
      collinearTol * (V2.norm (V2.sub p0 p1) * V2.norm (V2.sub p1 p2))) :
    GenRs.Circle2_from_3_points p0 p1 p2 = none := by
  rw [C11T.from_3_points_eq]; exact C11.from3Points_collinear_rejected p0 p1 p2 h

theorem arc_length_fraction_agree (a : Arc ℝ) (f : ℝ) (hl : GenRs.Arc2_length a ≠ 0) :
    GenRs.Arc2_point_at_length a (f * GenRs.Arc2_length a) = GenRs.Arc2_point_at_fraction a f := by
  rw [C11T.arc_length_eq] at hl ⊢
  rw [C11T.arc_point_at_length_eq, C11T.arc_point_at_fraction_eq]
  exact C11.arc_length_fraction_agree a f hl
end C11U
