import Engeom.Model.AlignLoop
import Engeom.Props.C02
import Engeom.Props.C03
import Engeom.Lemmas.Loops
/-
  C07 — Rigid alignment recovers a known displacement and reports honest residuals.
  The solver (Levenberg–Marquardt, external crate) is an arbitrary client of the problem struct: NO sequence of its
  calls can make the residual vector and the parameters disagree; a solver which only accepts improving trials never
  ends above its start; a point on the reference polyline has residual zero (the step behind "the exact inverse of the
  displacement is a global minimiser"; that both residuals are unchanged when point and reference move together is
  proved beside it, and nothing joins the two).
-/

namespace C07

open AlignProblem

section generic
variable {P SP X R : Type} (pb : AlignProblem P SP X R)

def Consistent (s : AlignState P SP X) : Prop :=
  s.moved = pb.points.map (pb.move s.x) ∧ s.closest = s.moved.map pb.closest

theorem refresh_consistent (x : X) : Consistent pb (pb.refresh x) := ⟨rfl, rfl⟩

theorem refresh_x (x : X) : (pb.refresh x).x = x := rfl

theorem run_consistent {s : AlignState P SP X} (h : Consistent pb s) (ops : List (AlignOp X)) :
    Consistent pb (pb.run s ops) :=
  List.foldlRecOn ops pb.step h fun _ hs op _ => by
    cases op
    exacts [refresh_consistent pb _, hs, hs]

theorem residuals_honest {s : AlignState P SP X} (h : Consistent pb s) :
    pb.residuals s =
      pb.points.map fun p => pb.resid (pb.move s.x p) (pb.closest (pb.move s.x p)) := by
  obtain ⟨hm, hc⟩ := h
  unfold AlignProblem.residuals
  rw [hc, List.zipWith_map_right, List.zipWith_self, hm, List.map_map]
  rfl

/-- C07, residual half: whatever the solver did between construction and return, the residual
    vector read from the returned problem belongs to the returned parameters. -/
theorem final_residuals_honest (x0 : X) (ops : List (AlignOp X)) :
    let s := pb.run (pb.refresh x0) ops
    pb.residuals s =
      pb.points.map fun p => pb.resid (pb.move s.x p) (pb.closest (pb.move s.x p)) :=
  residuals_honest pb (run_consistent pb (refresh_consistent pb x0) ops)

def lastParams (x0 : X) : List (AlignOp X) → X
  | [] => x0
  | .setParams x :: r => lastParams x r
  | _ :: r => lastParams x0 r

theorem run_x (s : AlignState P SP X) (ops : List (AlignOp X)) :
    (pb.run s ops).x = lastParams s.x ops := by
  induction ops generalizing s with
  | nil => rfl
  | cons op r ih => cases op <;> exact ih _

end generic

/-- The stale-cache variant (parameters stored, caches not refreshed): after one `set_params` the residuals
    still describe the old parameters. -/
theorem stale_cache_refuted :
    let pb : AlignProblem Nat Nat Nat Nat :=
      { points := [0], move := fun x p => x + p, closest := id, resid := fun p _ => p }
    let s := AlignProblem.stepStale (pb.refresh 0) (AlignOp.setParams 1)
    ¬ Consistent pb s ∧ pb.residuals s ≠ pb.points.map fun p => pb.resid (pb.move s.x p) (pb.closest (pb.move s.x p)) := by
  intro pb s
  exact ⟨fun h => absurd h.1 (by decide), by decide⟩

section lm
variable {X C : Type} [LinearOrder C]

theorem lmAccept_best (f : X → C) (cur : X) (trials : List X) :
    f (lmAccept f cur trials) ≤ f cur ∧ ∀ t ∈ trials, f (lmAccept f cur trials) ≤ f t :=
  have h := Loops.foldl_first_min f trials cur
  ⟨h.1, h.2.1⟩

theorem lmAccept_le_trials (f : X → C) (cur : X) (trials : List X) :
    ∀ t ∈ trials, f (lmAccept f cur trials) ≤ f t :=
  (lmAccept_best f cur trials).2

end lm

section geom
variable {F : Type} [Field F] [LinearOrder F] [IsStrictOrderedRing F]

/-- the point-to-plane residual -/
theorem toPlane_invariant (T : Iso3 F) (h : C03.IsRot3 T) (c : SP3 F) (p : V3 F) :
    sabs ((c.transformed T).scalarProjection (T.apply p)) = sabs (c.scalarProjection p) := by
  rw [C03.scalarProjection_invariant T h]

/-- the point-to-point residual, squared -/
theorem toPoint_invariant (T : Iso3 F) (h : C03.IsRot3 T) (c p : V3 F) :
    V3.normSq (V3.sub (T.apply p) (T.apply c)) = V3.normSq (V3.sub p c) :=
  C03.distSq_apply T h p c

/-- A point on an edge of the reference polyline is its own closest point, and its signed distance along ANY normal
    attached there is zero (2-D): points sampled from the curve and moved back exactly have residual 0, the least a
    sum of squares can be.  The statement speaks of one point and of `closestOnPolyline`, not of `problem2` or a
    displacement. -/
theorem on_curve_residual_zero (verts : List (V2 F)) (k : Nat) (a b : V2 F)
    (ha : verts[k]? = some a) (hb : verts[k + 1]? = some b) (s : F) (hs0 : 0 ≤ s) (hs1 : s ≤ 1)
    (r : Nat × F × V2 F × F) (h : closestOnPolyline verts (lerpP a b s) = some r) (n : V2 F) :
    r.2.2.1 = lerpP a b s ∧ (⟨r.2.2.1, n⟩ : SP2 F).scalarProjection (lerpP a b s) = 0 := by
  have hopt := C02.closestOnPolyline_optimal h ha hb hs0 hs1
  rw [C02.closestOnPolyline_dist_eq h, LawfulVec.vnormSq_sub_eq_zero.mpr rfl] at hopt
  -- at distance zero from the query: it IS the query
  have hq : lerpP a b s = r.2.2.1 := LawfulVec.eq_of_vnormSq_sub_le hopt
  rw [← hq]
  exact ⟨rfl, (V2.dot_sub_right n _ _).trans (sub_self _)⟩

end geom

end C07
