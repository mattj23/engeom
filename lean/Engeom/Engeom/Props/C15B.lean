import Engeom.Model.Hull
import Engeom.Props.C11
/-
  C15 (continued) — the ball-pivot loop of src/geom2/hull.rs (model: `ballPivot`, the code statement by statement).
  For EVERY result (`ballPivot_chain`): the walk begins at the start and has one ball centre per step, each an
  intersection point of the two circles of radius r about the two consecutive hull points, hence — outside the tangency
  band of the circle-circle routine — one radius from both (`touches_on_both`).
  Not proved: that the fuel of the model loop (`3n + 3` passes; at `ballPivot` Model/Hull argues from the "Loop detected"
  guard of the code, in words only, that they suffice) is never exhausted, and "no input point strictly inside the
  ball", which the oracle decides per case.
-/
namespace C15

/-- the `getD` default of Model/Hull, so that `Touches` is literally membership in the list `pivotNeighbour` folds over -/
abbrev z2 : V2 ℝ := ⟨0, 0⟩

def Touches (pts : List (V2 ℝ)) (r : ℝ) (a b : Nat) (c : V2 ℝ) : Prop :=
  c ∈ Circle.intersectionsWith ⟨pts.getD a z2, r⟩ ⟨pts.getD b z2, r⟩

/-- one centre per consecutive pair of the walk -/
def Chain (pts : List (V2 ℝ)) (r : ℝ) : List Nat → List (V2 ℝ) → Prop
  | [_], [] => True
  | a :: b :: rest, c :: cs => Touches pts r a b c ∧ Chain pts r (b :: rest) cs
  | _, _ => False

theorem Chain.append {pts : List (V2 ℝ)} {r : ℝ} {res : List Nat} {cs : List (V2 ℝ)} {a b : Nat} {c : V2 ℝ}
    (h : Chain pts r res cs) (hl : res.getLast? = some a) (ht : Touches pts r a b c) :
    Chain pts r (res ++ [b]) (cs ++ [c]) := by
  -- the three clauses of `Chain`: one index and no centre; two indices and a centre in front; any other shape
  fun_induction Chain pts r res cs with
  | case1 x =>
    cases hl
    exact ⟨ht, trivial⟩
  | case2 x y rest c0 cs ih =>
    rw [List.getLast?_cons_cons] at hl
    exact ⟨h.1, ih h.2 hl⟩
  | case3 => exact h.elim

theorem Chain.length_eq {pts : List (V2 ℝ)} {r : ℝ} {res : List Nat} {cs : List (V2 ℝ)}
    (h : Chain pts r res cs) : res.length = cs.length + 1 := by
  fun_induction Chain pts r res cs with
  | case1 => rfl
  | case2 x y rest c0 cs ih => rw [List.length_cons, ih h.2, List.length_cons]
  | case3 => exact h.elim

theorem pivotCand_cases (pw dir : V2 ℝ) (r : ℝ) (pn : V2 ℝ) (dirn : AngleDir) (ni : Nat)
    (best : Option (Nat × V2 ℝ × ℝ)) (p : V2 ℝ) :
    pivotCand pw dir r pn dirn ni best p = best ∨ ∃ ang, pivotCand pw dir r pn dirn ni best p = some (ni, p, ang) := by
  unfold pivotCand
  dsimp only
  generalize (if _ < directedAngle dir (V2.sub p pw) dirn then (0 : ℝ) else _) = ang
  split_ifs
  · exact Or.inl rfl
  · cases best with
    | none => exact Or.inr ⟨_, rfl⟩
    | some b =>
      dsimp only
      split_ifs
      · exact Or.inr ⟨_, rfl⟩
      · exact Or.inl rfl

/-- property carried through the two folds of `pivotBest` -/
def BestOK (pts : List (V2 ℝ)) (r : ℝ) (wi : Nat) (best : Option (Nat × V2 ℝ × ℝ)) : Prop :=
  ∀ x, best = some x → Touches pts r wi x.1 x.2.1

/-- every candidate offered touches both circles, and the two folds only ever keep the best so far or take the
    candidate -/
theorem pivotBest_ok (pts : List (V2 ℝ)) (r : ℝ) (dirn : AngleDir) (wi : Nat) (dir : V2 ℝ) (skip : Option Nat) :
    BestOK pts r wi (pivotBest pts r dirn wi dir skip) := by
  unfold pivotBest
  apply List.foldlRecOn (motive := BestOK pts r wi)
  · intro x hx; cases hx
  intro best hb e _
  unfold pivotNeighbour
  split_ifs
  · exact hb
  · apply List.foldlRecOn (motive := BestOK pts r wi) _ _ hb
    intro best hb p hp
    rcases pivotCand_cases (pts.getD wi z2) dir r (pts.getD e.1 z2) dirn e.1 best p with h | ⟨ang, h⟩ <;> rw [h]
    · exact hb
    · intro x hx; cases hx; exact hp

/-- what every pass keeps: the walk so far is a chain from `start` to the working index -/
structure PivotInv (pts : List (V2 ℝ)) (r : ℝ) (start : Nat) (s : PivotState ℝ) : Prop where
  chain : Chain pts r s.results s.centers
  last : s.results.getLast? = some s.wi
  head : s.results.head? = some start

theorem pivotAdvance_inv {pts : List (V2 ℝ)} {r : ℝ} {start : Nat} (stop : PivotEnd) {s : PivotState ℝ} {ni : Nat}
    {c : V2 ℝ} (h : PivotInv pts r start s) (ht : Touches pts r s.wi ni c) :
    PivotInv pts r start (pivotAdvance pts stop s ni c).2 :=
  ⟨h.chain.append h.last ht, List.getLast?_concat ..,
    (List.head?_append ..).trans (by rw [h.head]; rfl)⟩

def OutcomeInv (pts : List (V2 ℝ)) (r : ℝ) (start : Nat) : PivotOutcome ℝ → Prop
  | .running s => PivotInv pts r start s
  | .done s => PivotInv pts r start s
  | .loopDetected => True

theorem pivotStep_inv {pts : List (V2 ℝ)} {r : ℝ} {start : Nat} (dirn : AngleDir) (stop : PivotEnd)
    {s : PivotState ℝ} (h : PivotInv pts r start s) : OutcomeInv pts r start (pivotStep pts r dirn stop s) := by
  unfold pivotStep
  split_ifs
  · trivial
  · cases hb : pivotBest pts r dirn s.wi s.dir (pivotSkip s) with
    | none => exact h
    | some x =>
      have hadv := pivotAdvance_inv stop h (pivotBest_ok pts r dirn s.wi s.dir _ x hb)
      dsimp only
      split_ifs <;> exact hadv

theorem pivotLoop_inv {pts : List (V2 ℝ)} {r : ℝ} {start : Nat} {dirn : AngleDir} {stop : PivotEnd} :
    ∀ (fuel : Nat) {s s' : PivotState ℝ}, PivotInv pts r start s → pivotLoop pts r dirn stop fuel s = some s' →
      PivotInv pts r start s'
  | 0, s, s', _, h => nomatch h
  | fuel + 1, s, s', hi, h => by
    have hs := pivotStep_inv dirn stop hi
    unfold pivotLoop at h
    split at h
    · cases h
    · next t ht => cases h; rwa [ht] at hs
    · next t ht => rw [ht] at hs; exact pivotLoop_inv fuel hs h

/-- **Every result of the ball pivot is a chain: one centre per step, each an intersection point of
    the circles of radius r about the two consecutive hull points; the walk begins at the start.** -/
theorem ballPivot_chain (pts : List (V2 ℝ)) (start : Nat) (sd : V2 ℝ) (stop : PivotEnd) (dirn : AngleDir) (r : ℝ)
    (idx : List Nat) (cs : List (V2 ℝ)) (h : ballPivot pts start sd stop dirn r = some (idx, cs)) :
    Chain pts r idx cs ∧ idx.length = cs.length + 1 ∧ idx.head? = some start := by
  unfold ballPivot at h
  dsimp only at h
  split at h
  · next s hl =>
    cases h
    have h0 : PivotInv pts r start ⟨start, V2.normalize sd, [start], [], [start]⟩ := ⟨trivial, rfl, rfl⟩
    have hi := pivotLoop_inv _ h0 hl
    exact ⟨hi.chain, hi.chain.length_eq, hi.head⟩
  · cases h

/-- a centre of the chain is `r` from both hull points; `ht` (as in `C11.cc_points_on_both`): outside the tangency band of
    the circle-circle routine -/
theorem touches_on_both (pts : List (V2 ℝ)) (r : ℝ) (hr : 0 ≤ r) (a b : Nat) (c : V2 ℝ)
    (h : Touches pts r a b c)
    (ht : ¬ (|dist2 (pts.getD a z2) (pts.getD b z2) - (r + r)| < ccTol ∨
             abs (dist2 (pts.getD a z2) (pts.getD b z2) - abs (r - r)) < ccTol)) :
    V2.normSq (V2.sub c (pts.getD a z2)) = r * r ∧ V2.normSq (V2.sub c (pts.getD b z2)) = r * r := by
  unfold Touches at h
  set s : Circle ℝ := ⟨pts.getD a z2, r⟩
  set o : Circle ℝ := ⟨pts.getD b z2, r⟩
  by_cases hd : dist2 s.c o.c < ccTol
  · rw [C11.cc_none_concentric s o hd] at h; cases h
  by_cases h1 : s.r + o.r < dist2 s.c o.c
  · rw [C11.cc_none_separate s o h1] at h; cases h
  by_cases h2 : dist2 s.c o.c < |s.r - o.r|
  · rw [C11.cc_none_nested s o h2] at h; cases h
  exact (C11.cc_points_on_both s o hr hr hd h1 h2 ht).2 c h

/-! non-vacuity: two points 1 apart, ball of radius 1: the intersection points exist -/
example : (Circle.intersectionsWith (⟨⟨0, 0⟩, 1⟩ : Circle ℝ) ⟨⟨1, 0⟩, 1⟩).length = 2 := by
  have hd : dist2 (⟨0, 0⟩ : V2 ℝ) ⟨1, 0⟩ = 1 := by
    unfold dist2 V2.norm V2.normSq V2.dot V2.sub
    show Real.sqrt _ = 1
    norm_num
  have tol : (ccTol : ℝ) = 1 / 10000000000 := by
    unfold ccTol; rw [ofRatR]; norm_num [Gen.CC_TOL_num, Gen.CC_TOL_den]
  refine (C11.cc_points_on_both _ _ (by norm_num) (by norm_num) ?_ ?_ ?_ ?_).1
  · simp only [hd, tol]; norm_num
  · simp only [hd]; norm_num
  · simp only [hd]; norm_num
  · simp only [hd, tol]; norm_num

end C15
