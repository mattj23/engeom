import Engeom.Model.Metrology
import Engeom.Lemmas.RealScalar
import Engeom.Lemmas.Basics
import Engeom.Lemmas.CurveCore
import Engeom.Lemmas.Vec
import Mathlib.Tactic.Ring
/-
  C16 — Deviations equal signed distance and aggregates track their contents.
  The deviation set's cached extremes and the point cloud's channel lengths are invariants of every history of
  operations (a fold of `step` over any list of them); the tolerance map and the two deviation functions (over ℝ:
  magnitude, sign, reconstruction) get input/output specifications.
-/

namespace C16

section Best
variable {α : Type}

/-- `m = l[i]` and every element is `r`-below it; `(· ≤ ·)` for the cached maximum, `(· ≥ ·)` for the minimum (`devSetInv_iff`) -/
def Best (r : α → α → Prop) (l : List α) (i : Nat) (m : α) : Prop :=
  l[i]? = some m ∧ ∀ w ∈ l, r w m

variable {r : α → α → Prop} {l : List α} {i : Nat} {m d : α}

theorem Best.keep (h : Best r l i m) (hd : r d m) : Best r (l ++ [d]) i m :=
  ⟨by rw [List.getElem?_append_left (List.getElem?_eq_some_iff.mp h.1).1]; exact h.1,
   List.forall_mem_append.mpr ⟨h.2, List.forall_mem_singleton.mpr hd⟩⟩

theorem Best.snoc [Std.Refl r] (h : ∀ w ∈ l, r w d) : Best r (l ++ [d]) l.length d :=
  ⟨by simp, List.forall_mem_append.mpr ⟨h, List.forall_mem_singleton.mpr (refl d)⟩⟩

theorem Best.replace [Std.Refl r] [IsTrans α r] (h : Best r l i m) (hd : r m d) :
    Best r (l ++ [d]) l.length d :=
  .snoc fun w hw => _root_.trans (h.2 w hw) hd

/-- one cached index of `DevSet.push`, `p` its comparison -/
theorem Best.push [Std.Refl r] [IsTrans α r]
    (h : Best r l i m) (d : α) (p : Prop) [Decidable p] (hp : p → r m d) (hn : ¬ p → r d m) :
    ∃ j m', (if p then some l.length else some i) = some j ∧ Best r (l ++ [d]) j m' := by
  split_ifs with hc
  exacts [⟨_, d, rfl, h.replace (hp hc)⟩, ⟨i, m, rfl, h.keep (hn hc)⟩]

end Best

section DevSet
variable {α : Type} [LinearOrder α]

/-- The cached indices point at a maximum and a minimum of everything held; both are absent exactly when the set is empty. -/
def DevSetInv (s : DevSet α) : Prop :=
  (s.values = [] → s.maxIdx = none ∧ s.minIdx = none) ∧
  (s.values ≠ [] → (∃ i m, s.maxIdx = some i ∧ s.values[i]? = some m ∧ ∀ w ∈ s.values, w ≤ m) ∧
                   (∃ i m, s.minIdx = some i ∧ s.values[i]? = some m ∧ ∀ w ∈ s.values, m ≤ w))

theorem devSetInv_iff {s : DevSet α} : DevSetInv s ↔
    (s.values = [] → s.maxIdx = none ∧ s.minIdx = none) ∧
    (s.values ≠ [] → (∃ i m, s.maxIdx = some i ∧ Best (· ≤ ·) s.values i m) ∧
                     (∃ i m, s.minIdx = some i ∧ Best (· ≥ ·) s.values i m)) := Iff.rfl

theorem argmaxLastAux_spec (vs : List α) {pre : List α} {bi : Nat} {bv : α} (h : Best (· ≤ ·) pre bi bv) :
    ∃ m, Best (· ≤ ·) (pre ++ vs) (argmaxLastAux vs pre.length bi bv) m := by
  induction vs generalizing pre bi bv with
  | nil => exact ⟨bv, by simpa [argmaxLastAux] using h⟩
  | cons v vs ih =>
    unfold argmaxLastAux
    split_ifs with hlt
    · have := ih (h.keep hlt.le)
      rwa [List.append_assoc, List.length_append] at this
    · have := ih (h.replace (not_lt.mp hlt))
      rwa [List.append_assoc, List.length_append] at this

/-- Not the order dual of `argmaxLastAux_spec`: on a tie the maximum scan takes the later element, the minimum scan
    keeps the earlier one (`Iterator::max_by` / `min_by`).  `Best` does not see ties. -/
theorem argminFirstAux_spec (vs : List α) {pre : List α} {bi : Nat} {bv : α} (h : Best (· ≥ ·) pre bi bv) :
    ∃ m, Best (· ≥ ·) (pre ++ vs) (argminFirstAux vs pre.length bi bv) m := by
  induction vs generalizing pre bi bv with
  | nil => exact ⟨bv, by simpa [argminFirstAux] using h⟩
  | cons v vs ih =>
    unfold argminFirstAux
    split_ifs with hlt
    · have := ih (h.replace hlt.le)
      rwa [List.append_assoc, List.length_append] at this
    · have := ih (h.keep (not_lt.mp hlt))
      rwa [List.append_assoc, List.length_append] at this

theorem devset_empty_inv : DevSetInv (DevSet.empty : DevSet α) :=
  ⟨fun _ => ⟨rfl, rfl⟩, fun h => absurd rfl h⟩

theorem devset_new_inv (vs : List α) : DevSetInv (DevSet.new vs) := by
  cases vs with
  | nil => exact devset_empty_inv
  | cons v vs =>
    have h0 {r : α → α → Prop} [Std.Refl r] : Best r [v] 0 v := .snoc (l := []) (by simp)
    obtain ⟨m, hm⟩ := argmaxLastAux_spec vs h0
    obtain ⟨n, hn⟩ := argminFirstAux_spec vs h0
    exact devSetInv_iff.mpr ⟨fun h => by simp [DevSet.new] at h, fun _ => ⟨⟨_, m, rfl, hm⟩, ⟨_, n, rfl, hn⟩⟩⟩

theorem devset_push_inv {s : DevSet α} (d : α) (h : DevSetInv s) : DevSetInv (s.push d) := by
  refine devSetInv_iff.mpr ⟨fun he => by simp [DevSet.push] at he, fun _ => ?_⟩
  by_cases hv : s.values = []
  · obtain ⟨h1, h2⟩ := h.1 hv
    have h0 {r : α → α → Prop} [Std.Refl r] : Best r (s.values ++ [d]) s.values.length d :=
      .snoc (by simp [hv])
    simp only [DevSet.push, h1, h2]
    exact ⟨⟨_, d, rfl, h0⟩, ⟨_, d, rfl, h0⟩⟩
  · obtain ⟨⟨i, m, hi, hm⟩, ⟨j, n, hj, hn⟩⟩ := (devSetInv_iff.mp h).2 hv
    simp only [DevSet.push, hi, hj, getAt, hm.1, hn.1, Option.getD_some]
    exact ⟨hm.push d _ le_of_lt not_lt.mp, hn.push d _ le_of_lt not_lt.mp⟩

/-- After ANY sequence of constructions and pushes the invariant holds. -/
theorem devset_history_inv (ops : List (DevOp α)) :
    DevSetInv (ops.foldl DevSet.step (DevSet.empty : DevSet α)) :=
  List.foldlRecOn ops DevSet.step devset_empty_inv fun s hs op _ => by
    cases op with
    | new vs => exact devset_new_inv vs
    | push d => exact devset_push_inv d hs

theorem devset_max_is_max {s : DevSet α} (h : DevSetInv s) (hne : s.values ≠ []) :
    ∃ m, s.max? = some m ∧ m ∈ s.values ∧ ∀ w ∈ s.values, w ≤ m := by
  obtain ⟨⟨i, m, hi, hm, hmax⟩, _⟩ := h.2 hne
  exact ⟨m, by simp [DevSet.max?, hi, hm], List.mem_of_getElem? hm, hmax⟩

theorem devset_min_is_min {s : DevSet α} (h : DevSetInv s) (hne : s.values ≠ []) :
    ∃ m, s.min? = some m ∧ m ∈ s.values ∧ ∀ w ∈ s.values, m ≤ w := by
  obtain ⟨_, ⟨i, m, hi, hm, hmin⟩⟩ := h.2 hne
  exact ⟨m, by simp [DevSet.min?, hi, hm], List.mem_of_getElem? hm, hmin⟩

end DevSet

section Zone
variable {F : Type} [Field F] [LinearOrder F] [IsStrictOrderedRing F]

theorem smin_eq_min (a b : F) : smin a b = min a b := smin_eq a b

/-- The symmetric zone is twice the largest absolute deviation held. -/
theorem devset_zone (s : DevSet F) (h : DevSetInv s) (hne : s.values ≠ []) :
    (∀ w ∈ s.values, 2 * |w| ≤ s.zone) ∧ (∃ w ∈ s.values, s.zone = 2 * |w|) := by
  obtain ⟨mx, h1, h1m, h1b⟩ := devset_max_is_max h hne
  obtain ⟨mn, h2, h2m, h2b⟩ := devset_min_is_min h hne
  have hz : s.zone = 2 * max |mn| |mx| := by
    simp only [DevSet.zone, h1, h2, sabs_eq, smax_eq]; rw [mul_comm, max_comm]
  refine ⟨fun w hw => hz ▸ mul_le_mul_of_nonneg_left (abs_le_max_abs_abs (h2b w hw) (h1b w hw)) zero_le_two, ?_⟩
  rcases max_choice |mn| |mx| with e | e
  exacts [⟨mn, h2m, by rw [hz, e]⟩, ⟨mx, h1m, by rw [hz, e]⟩]

end Zone

section Cloud
variable {P N C : Type}

/-- one channel (normals or colours) of `Cloud.merge`; the conclusion must stay, syntactically, the `match` that
    `cloud_merge_inv` unfolds from it -/
theorem cloud_chan_merge {β : Type} {o o' : Option (List β)} {n n' : Nat} (h : ∀ l, o = some l → l.length = n)
    (h' : ∀ l, o' = some l → l.length = n') (hs : o.isSome = o'.isSome) :
    ∀ l, (match o, o' with | some l, some m => some (l ++ m) | x, _ => x) = some l → l.length = n + n' := by
  intro l hl
  -- a channel absent on the left gives `none`, one absent on the right only contradicts `hs`
  match o, o', hs, hl with
  | some a, some m, _, rfl => rw [List.length_append, h a rfl, h' m rfl]

theorem cloud_tryNew_inv {ps : List P} {ns : Option (List N)} {cs : Option (List C)} {c : Cloud P N C}
    (h : Cloud.tryNew ps ns cs = some c) : c.Inv := by
  unfold Cloud.tryNew at h
  split_ifs at h with h1 h2
  obtain rfl := Option.some.inj h
  exact ⟨fun l hl => by subst hl; simpa using h1, fun l hl => by subst hl; simpa using h2⟩

theorem cloud_empty_inv (a b : Bool) : (Cloud.empty a b : Cloud P N C).Inv := by
  unfold Cloud.empty Cloud.Inv
  constructor <;> intro l hl <;> split_ifs at hl <;> simp_all

theorem cloud_merge_inv {c o c' : Cloud P N C} (hc : c.Inv) (ho : o.Inv)
    (h : c.merge o = some c') : c'.Inv := by
  unfold Cloud.merge at h
  split_ifs at h with h1 h2
  obtain rfl := Option.some.inj h
  have hl : (c.points ++ o.points).length = c.points.length + o.points.length := List.length_append
  exact ⟨hl ▸ cloud_chan_merge hc.1 ho.1 (by simpa using h1), hl ▸ cloud_chan_merge hc.2 ho.2 (by simpa using h2)⟩

theorem cloud_append_eq_merge (c : Cloud P N C) (p : P) (n : Option N) (col : Option C) :
    c.append p n col = c.merge ⟨[p], n.map ([·]), col.map ([·])⟩ := by
  rcases c with ⟨ps, _ | ns, _ | cs⟩ <;> cases n <;> cases col <;> rfl

theorem cloud_append_inv {c c' : Cloud P N C} {p : P} {n : Option N} {col : Option C}
    (hc : c.Inv) (h : c.append p n col = some c') : c'.Inv :=
  cloud_merge_inv hc ⟨by cases n <;> simp, by cases col <;> simp⟩ (cloud_append_eq_merge c p n col ▸ h)

theorem cloud_createFromIndices_inv {c c' : Cloud P N C} {idx : List Nat}
    (h : c.createFromIndices idx = some c') : c'.Inv := by
  unfold Cloud.createFromIndices at h
  split at h
  · exact absurd h (by simp)
  · exact cloud_tryNew_inv h

/-- the shape of every case of `Cloud.step` -/
theorem cloud_step_inv_of {c : Cloud P N C} {r : Option (Cloud P N C)} (hc : c.Inv) (hr : ∀ c', r = some c' → c'.Inv) :
    let s := match r with | some c' => (c', true) | none => (c, false)
    s.1.Inv ∧ (s.2 = false → s.1 = c) := by
  cases r with
  | none => exact ⟨hc, fun _ => rfl⟩
  | some c' => exact ⟨hr c' rfl, fun hf => by simp at hf⟩

theorem cloud_step_inv (c : Cloud P N C) (op : Cloud.Op P N C) (hc : c.Inv)
    (hop : ∀ o, op = .merge o → o.Inv) : (c.step op).1.Inv ∧ ((c.step op).2 = false → (c.step op).1 = c) := by
  cases op with
  | append p n col => exact cloud_step_inv_of hc fun _ => cloud_append_inv hc
  | merge o => exact cloud_step_inv_of hc fun _ => cloud_merge_inv hc (hop o rfl)
  | select idx => exact cloud_step_inv_of hc fun _ => cloud_createFromIndices_inv

theorem cloud_history_inv (ops : List (Cloud.Op P N C)) (c : Cloud P N C) (hc : c.Inv)
    (hops : ∀ op ∈ ops, ∀ o, op = .merge o → o.Inv) :
    (ops.foldl (fun s op => (s.step op).1) c).Inv :=
  List.foldlRecOn ops _ hc fun s hs op hop => (cloud_step_inv s op hs (hops op hop)).1

end Cloud

section TolMap
variable {α : Type} [LinearOrder α]

theorem countLe_eq_findIdx (vs : List α) (x : α) : countLe vs x = vs.findIdx (fun v => !decide (v ≤ x)) :=
  List.length_takeWhile_eq_findIdx _ vs

theorem countLe_le_length (vs : List α) (x : α) : countLe vs x ≤ vs.length :=
  (List.takeWhile_sublist _).length_le

theorem lt_countLe_iff {vs : List α} (hs : vs.Pairwise (· ≤ ·)) (x : α) {j : Nat} {v : α}
    (hv : vs[j]? = some v) : j < countLe vs x ↔ v ≤ x := by
  obtain ⟨hj, rfl⟩ := List.getElem?_eq_some_iff.mp hv
  rw [countLe_eq_findIdx]
  refine ⟨fun h => by simpa using List.not_of_lt_findIdx h, fun hle => List.lt_findIdx_of_not hj fun i hi => ?_⟩
  have : vs[i] ≤ vs[j] := hs.rel_get_of_le (a := ⟨i, by omega⟩) (b := ⟨j, hj⟩) hi
  simpa using this.trans hle

theorem tolMapGet_eq {vs : List α} (hs : vs.Pairwise (· ≤ ·)) (x : α) :
    tolMapGet vs x = if countLe vs x = 0 then none else some (countLe vs x - 1) := by
  cases vs with
  | nil => rfl
  | cons a t =>
    obtain ⟨last, hl⟩ : ∃ last, (a :: t).getLast? = some last := ⟨_, List.getLast?_cons⟩
    have hlast : (a :: t)[t.length]? = some last := by rw [← hl, List.getLast?_eq_getElem?]; rfl
    have h0 : 0 < countLe (a :: t) x ↔ a ≤ x := lt_countLe_iff hs x rfl
    have hn : t.length < countLe (a :: t) x ↔ last ≤ x := lt_countLe_iff hs x hlast
    have hk : countLe (a :: t) x ≤ t.length + 1 := countLe_le_length (a :: t) x
    simp only [tolMapGet, indexOf, hl, List.isEmpty_cons, List.head?_cons, List.length_cons]
    by_cases hk0 : countLe (a :: t) x = 0
    · have hxa : x < a := not_le.mp fun h => by have := h0.mpr h; omega
      simp [hk0, hxa]
    · have hxa : ¬ x < a := not_lt.mpr (h0.mp (by omega))
      by_cases hb : last < x
      · have := hn.mpr hb.le
        simp only [hk0, hb, hxa, if_true, if_false, Bool.false_eq_true, Option.some.injEq]
        omega
      · simp [hk0, hb]

/-- `get` returns zone `i` exactly when breakpoint `i` is the greatest one not above `x`:
    the last zone beyond the end, and no zone at all below the start. -/
theorem tolmap_get_spec (vs : List α) (hs : vs.Pairwise (· ≤ ·)) (x : α) (i : Nat) :
    tolMapGet vs x = some i ↔
      (∃ v, vs[i]? = some v ∧ v ≤ x) ∧ (∀ j v, i < j → vs[j]? = some v → x < v) := by
  have hk := countLe_le_length vs x
  have key {j v} (hv : vs[j]? = some v) := lt_countLe_iff hs x hv
  -- both halves of the right side speak of the boundary `countLe vs x`: it is above `i`, and at most `i + 1`
  have h1 : (∃ v, vs[i]? = some v ∧ v ≤ x) ↔ i < countLe vs x :=
    ⟨fun ⟨v, hv, hvx⟩ => (key hv).mpr hvx,
     fun h => ⟨vs[i], List.getElem?_eq_getElem (h.trans_le hk), (key (List.getElem?_eq_getElem _)).mp h⟩⟩
  have h2 : (∀ j v, i < j → vs[j]? = some v → x < v) ↔ countLe vs x ≤ i + 1 :=
    ⟨fun h => not_lt.mp fun hc => (h (i + 1) _ i.lt_succ_self (List.getElem?_eq_getElem (hc.trans_le hk))).not_ge
        ((key (List.getElem?_eq_getElem _)).mp hc),
     fun h j v hj hv => not_le.mp fun hle => absurd ((key hv).mpr hle) (by omega)⟩
  rw [tolMapGet_eq hs, h1, h2]
  split_ifs with h0
  · simp only [false_iff]; omega
  · simp only [Option.some.injEq]; omega

/-- Regression witness for D8 (fixed in /repo): the pre-fix code returned the LAST zone below the first breakpoint. -/
theorem tolmap_prefix_below_start : tolMapGet_prefix [1, 2, 3] (0 : Nat) = some 2 := by decide

example : tolMapGet [1, 2, 3] (0 : Nat) = none := by decide
example : tolMapGet [1, 2, 3] (2 : Nat) = some 1 := by decide
example : tolMapGet [1, 2, 3] (7 : Nat) = some 2 := by decide

end TolMap

section Deviation

theorem devTolCurve_pos : (0 : ℝ) < devTolCurve := ofRatR_pos (by decide) (by decide)

theorem devTolMesh_pos : (0 : ℝ) < devTolMesh := ofRatR_pos (by decide) (by decide)

/-- 2-D, measured point at least the threshold away from the reference point: the deviation's magnitude is the distance,
    its sign the side of the normal the point is on, and reference point + value · direction is the measured point. -/
theorem curve_dev_far (p0 n q : V2 ℝ) (hfar : devTolCurve ≤ V2.norm (V2.sub q p0)) :
    |(pointCurveDeviation p0 n q).2| = V2.norm (V2.sub q p0) ∧
    (V2.dot (V2.sub q p0) n < 0 → (pointCurveDeviation p0 n q).2 < 0) ∧
    (0 ≤ V2.dot (V2.sub q p0) n → 0 < (pointCurveDeviation p0 n q).2) ∧
    V2.add p0 (V2.smul (pointCurveDeviation p0 n q).2 (pointCurveDeviation p0 n q).1) = q := by
  have hL : 0 < V2.norm (V2.sub q p0) := lt_of_lt_of_le devTolCurve_pos hfar
  have hv := (V2.dot_comm _ _).trans (V2.dot_normalize_self hL.ne')
  have hr := V2.norm_smul_normalize hL.ne'
  simp only [pointCurveDeviation, curveDevNormal, if_neg (not_lt.mpr hfar)]
  by_cases hs : V2.dot (V2.sub q p0) n < 0
  · rw [if_pos hs, V2.normalize_neg, V2.dot_neg_right, hv, abs_neg, V2.neg_smul_neg, hr,
      V2.add_sub_cancel]
    exact ⟨abs_of_pos hL, fun _ => neg_lt_zero.mpr hL, fun h => absurd hs (not_lt.mpr h), rfl⟩
  · rw [if_neg hs, hv, hr, V2.add_sub_cancel]
    exact ⟨abs_of_pos hL, fun h => absurd h hs, fun _ => hL, rfl⟩

/-- within the threshold: the station normal, and the normal component of `q − p0` instead of its length -/
theorem curve_dev_near (p0 n q : V2 ℝ) (hnear : V2.norm (V2.sub q p0) < devTolCurve) :
    pointCurveDeviation p0 n q = (n, V2.dot (V2.sub q p0) n) := by
  simp only [pointCurveDeviation, curveDevNormal, if_pos hnear]

theorem mesh_dev_plane (c n q : V3 ℝ) :
    measurePointDeviation c n q .toPlane = (n, V3.dot n (V3.sub q c)) := rfl

/-- 3-D point mode, away from the surface: full distance, sign of the side, reconstruction. -/
theorem mesh_dev_point_far (c n q : V3 ℝ) (hfar : devTolMesh ≤ V3.norm (V3.sub q c)) :
    |(measurePointDeviation c n q .toPoint).2| = V3.norm (V3.sub q c) ∧
    (0 < V3.dot n (V3.sub q c) → 0 < (measurePointDeviation c n q .toPoint).2) ∧
    (V3.dot n (V3.sub q c) ≤ 0 → (measurePointDeviation c n q .toPoint).2 < 0) ∧
    V3.add c (V3.smul (measurePointDeviation c n q .toPoint).2 (measurePointDeviation c n q .toPoint).1) = q := by
  have hL : 0 < V3.norm (V3.sub q c) := lt_of_lt_of_le devTolMesh_pos hfar
  have hv := V3.dot_normalize_self hL.ne'
  have hr := V3.norm_smul_normalize hL.ne'
  simp only [measurePointDeviation, meshDevDir, distanceValue3, if_neg (not_lt.mpr hfar)]
  by_cases hs : 0 < V3.dot n (V3.sub q c)
  · rw [if_pos hs, hv, hr, V3.add_sub_cancel]
    exact ⟨abs_of_pos hL, fun _ => hL, fun h => absurd hs (not_lt.mpr h), rfl⟩
  · rw [if_neg hs, V3.dot_neg_left, hv, abs_neg, V3.neg_smul_neg, hr, V3.add_sub_cancel]
    exact ⟨abs_of_pos hL, fun h => absurd h hs, fun _ => neg_lt_zero.mpr hL, rfl⟩

end Deviation

section Distance
variable {F : Type} [Field F] [LinearOrder F] [IsStrictOrderedRing F]

theorem distance_value_projection (a b d : V3 F) :
    distanceValue3 a b d = d.x * (b.x - a.x) + d.y * (b.y - a.y) + d.z * (b.z - a.z) := rfl

theorem distance_reversed_value (a b d : V3 F) :
    distanceValue3 b a (V3.neg d) = distanceValue3 a b d := by
  simp only [distanceValue3, V3.dot, V3.sub, V3.neg]; ring

theorem distance_reversed_value2 (a b d : V2 F) :
    distanceValue2 b a (V2.neg d) = distanceValue2 a b d := by
  simp only [distanceValue2, V2.dot, V2.sub, V2.neg]; ring

end Distance

/-! non-vacuity -/
example : devTolCurve ≤ V2.norm (V2.sub (⟨3, 4⟩ : V2 ℝ) ⟨0, 0⟩) := by
  have h : V2.norm (V2.sub (⟨3, 4⟩ : V2 ℝ) ⟨0, 0⟩) = 5 := by
    simp only [V2.norm, V2.normSq, V2.dot, V2.sub, sqrtR]
    rw [show ((3:ℝ) - 0) * (3 - 0) + (4 - 0) * (4 - 0) = 5 * 5 by norm_num]
    exact Real.sqrt_mul_self (by norm_num)
  rw [h]; unfold devTolCurve; rw [ofRatR]
  norm_num [Gen.DEV_NORMAL_TOL_CURVE_num, Gen.DEV_NORMAL_TOL_CURVE_den]

end C16
