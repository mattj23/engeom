import Engeom.Generated.RsC17
import Engeom.Generated.RsC17_series
import Engeom.Lemmas.Loops
/-
  C17 — translation tie.  `are_in_ascending_order` (src/common/vec_f64.rs, `windows(2).all(|w| w[0] <= w[1])`: the
  test behind `DiscreteDomain::try_from` and `Series1::try_new`), `linear_space` / `DiscreteDomain::linear`
  (src/common/discrete_domain.rs, a `for` loop pushing `start + i * step`) and `Series1::shift_by` / `scaled_by`
  (src/func1/series1.rs), as regenerated from /repo, are for every scalar type the model functions of Model/Series;
  the two columns of the Rust series, zipped, are the model's list of pairs.
-/
namespace C17T
set_option linter.unusedSectionVars false
variable {α : Type} [Add α] [Sub α] [Mul α] [Div α] [Neg α] [LT α] [LE α]
  [DecidableLT α] [DecidableLE α] [OfNat α 0] [OfNat α 1] [OfNat α 2] [Scalar α] [Inhabited α]

theorem ascending_eq (vs : List α) : GenRs.are_in_ascending_order vs = ascending vs := by
  unfold GenRs.are_in_ascending_order
  induction vs with
  | nil => rfl
  | cons a r ih =>
    cases r with
    | nil => rfl
    | cons b r2 =>
      unfold ascending windows2
      rw [List.all_cons, ih]
      rfl

/-- the cast `i as f64` of the translation -/
def ofNatS (i : Nat) : α := Scalar.ofRat i 1

theorem linear_space_eq (a b : α) (n : Nat) : GenRs.linear_space a b n = domLinear ofNatS a b n := by
  unfold GenRs.linear_space domLinear linValues ofNatS
  simp only [Loops.foldl_push, List.nil_append]

/-- the same body as `linear_space`; a tie of its own, so that it fails only when ITS function stops being the model's -/
theorem domain_linear_eq (a b : α) (n : Nat) : GenRs.DiscreteDomain_linear a b n = domLinear ofNatS a b n := by
  unfold GenRs.DiscreteDomain_linear domLinear linValues ofNatS
  simp only [Loops.foldl_push, List.nil_append]

theorem shift_by_eq (s : SeriesXY α) (dx dy : α) :
    (GenRs.shift_by s dx dy).x.zip (GenRs.shift_by s dx dy).y = serShiftBy (s.x.zip s.y) dx dy :=
  List.zip_map ..

/-- `hlen`: a `Series1` has as many ordinates as abscissae -/
theorem scaled_by_eq (s : SeriesXY α) (sx sy : α) (hlen : s.x.length = s.y.length) :
    (GenRs.scaled_by s sx sy).x.zip (GenRs.scaled_by s sx sy).y = serScaledBy (s.x.zip s.y) sx sy := by
  unfold GenRs.scaled_by serScaledBy
  split
  · show (s.x.map _).reverse.zip (s.y.map _).reverse = _
    rw [List.zip_eq_zipWith, ← List.reverse_zipWith (by simp [hlen]), ← List.zip_eq_zipWith, List.zip_map]
    rfl
  · exact List.zip_map ..
end C17T
