import Engeom.Generated.RsC10
import Engeom.Lemmas.RealScalar
/-
  C10 — the REGENERATED continue-test of the bisection in `inscribed_from_spanning_ray` (src/airfoil/helpers.rs), over ℝ.
  The bracket is measured in LENGTH (fraction × ray length), so when the search stops the centre taken at its middle is
  within half a tolerance of both ends whatever the length of the ray (the local thickness of the section).  Proved on
  the regenerated test itself, not tied to the loop test of the model's `bisectLoop`.
-/
namespace C10U

theorem bracket_within_tol_when_the_search_stops {fpos fneg len tol : ℝ}
    (h : GenRs.bisect_continue fpos fneg len tol = false) : (fpos - fneg) * len ≤ tol := by
  unfold GenRs.bisect_continue at h
  simpa using h

theorem centre_within_half_tol_of_the_bracket_ends (fpos fneg len tol : ℝ) (hlen : 0 ≤ len) (hord : fneg ≤ fpos)
    (h : GenRs.bisect_continue fpos fneg len tol = false) :
    |((fpos + fneg) * (1 / 2) - fneg) * len| ≤ tol / 2 ∧ |((fpos + fneg) * (1 / 2) - fpos) * len| ≤ tol / 2 := by
  have hb := bracket_within_tol_when_the_search_stops h
  have e1 : ((fpos + fneg) * (1 / 2) - fneg) * len = (fpos - fneg) * len / 2 := by ring
  have e2 : ((fpos + fneg) * (1 / 2) - fpos) * len = -((fpos - fneg) * len / 2) := by ring
  have hnn : 0 ≤ (fpos - fneg) * len := mul_nonneg (sub_nonneg.mpr hord) hlen
  rw [e1, e2, abs_neg, abs_of_nonneg (div_nonneg hnn zero_le_two)]
  exact ⟨div_le_div_of_nonneg_right hb zero_le_two, div_le_div_of_nonneg_right hb zero_le_two⟩

theorem search_continues_while_the_bracket_is_longer (fpos fneg len tol : ℝ) (h : tol < (fpos - fneg) * len) :
    GenRs.bisect_continue fpos fneg len tol = true := by
  unfold GenRs.bisect_continue
  simpa using h

example : GenRs.bisect_continue 1 0 (20 : ℝ) (1 / 1000) = true := by
  apply search_continues_while_the_bracket_is_longer; norm_num

/-- The stations `FitRadiusEdge` adds while walking into an edge are searched with a hundredth of the ANALYSIS tolerance,
    whatever the edge method's own circle-fit tolerance (`check_tol`): they are stations like any other. -/
theorem added_stations_use_the_analysis_tolerance (af_tol check_tol check_tol' : ℝ) (h : 0 ≤ af_tol) :
    GenRs.fit_edge_station_tol af_tol check_tol = af_tol / 100 ∧
    GenRs.fit_edge_station_tol af_tol check_tol = GenRs.fit_edge_station_tol af_tol check_tol' ∧
    GenRs.fit_edge_station_tol af_tol check_tol ≤ af_tol := by
  have e : GenRs.fit_edge_station_tol af_tol check_tol = af_tol / 100 := by
    unfold GenRs.fit_edge_station_tol
    rw [ofRatR, Nat.cast_one, Nat.cast_ofNat, mul_one_div]
  exact ⟨e, rfl, e ▸ div_le_self h (by norm_num)⟩

end C10U
