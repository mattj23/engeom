import Engeom.Model.Basis
import Engeom.Generated.Consts
import Engeom.Generated.Tables
import Engeom.Lemmas.RealScalar
import Engeom.Lemmas.Vec
import Engeom.Props.C03
import Mathlib.Tactic.Ring
/-
  C19 — Basis, frame and plane constructions are orthonormal and right-handed.
  This file: the six two-vector frame constructors, INTERPRETED from the recipe table regenerated from
  src/geom3/iso3.rs, over ℝ.  Each is one Gram–Schmidt step (core A, or core B = A with the third axis reversed)
  followed by an arrangement of the three vectors.  No theorem: `iso3FromBasis`, `iso3FromXyo`, `iso2FromBasis` of Model/Basis.
-/

namespace C19

/-- the recipes found in the source are the ones the theorems below are about -/
theorem recipes_as_expected :
    Gen.frameRecipes =
      [("xy", 0, 1, [(2, 0, 1), (1, 2, 0)]), ("xz", 0, 2, [(1, 2, 0), (2, 0, 1)]),
       ("yz", 1, 2, [(0, 1, 2), (2, 0, 1)]), ("yx", 1, 0, [(2, 0, 1), (0, 1, 2)]),
       ("zx", 2, 0, [(1, 2, 0), (0, 1, 2)]), ("zy", 2, 1, [(0, 1, 2), (1, 2, 0)])] := by
  rfl

/-- the eighteen `try_normalize` thresholds of the six constructors: all one value, so `construct` runs every recipe with `eps` -/
theorem norm_tols_uniform :
    Gen.frameNormTols.length = 18 ∧
      ∀ t ∈ Gen.frameNormTols, t = (Gen.FRAME_NORM_TOL_num, Gen.FRAME_NORM_TOL_den) := by
  decide

/-- that value (`1e-10` in iso3.rs), regenerated -/
noncomputable def eps : ℝ := Scalar.ofRat Gen.FRAME_NORM_TOL_num Gen.FRAME_NORM_TOL_den

theorem eps_range : 0 ≤ eps ∧ eps < 1 := by
  unfold eps; rw [ofRatR]
  norm_num [Gen.FRAME_NORM_TOL_num, Gen.FRAME_NORM_TOL_den]

section ring
variable {R : Type} [CommRing R]

theorem cross_anticomm (a b : V3 R) : V3.cross a b = V3.neg (V3.cross b a) :=
  V3.cross_anticomm a b

end ring

/-- orthonormal with `e0 × e1 = e2`: the column matrix is a proper rotation -/
structure RightHanded (e0 e1 e2 : V3 ℝ) : Prop where
  u0 : V3.dot e0 e0 = 1
  u1 : V3.dot e1 e1 = 1
  u2 : V3.dot e2 e2 = 1
  o01 : V3.dot e0 e1 = 0
  o02 : V3.dot e0 e2 = 0
  o12 : V3.dot e1 e2 = 0
  rh : V3.cross e0 e1 = e2

theorem RightHanded.orthonormal {e0 e1 e2 : V3 ℝ} (h : RightHanded e0 e1 e2) : V3.Orthonormal e0 e1 e2 :=
  ⟨h.u0, h.u1, h.u2, h.o01, h.o02, h.o12⟩

theorem RightHanded.of_perp {u w : V3 ℝ} (hu : V3.dot u u = 1) (hw : V3.dot w w = 1)
    (huw : V3.dot u w = 0) : RightHanded u (V3.cross w u) w := by
  refine ⟨hu, ?_, hw, V3.dot_cross_self_right w u, huw, ?_, ?_⟩
  · have e := V3.lagrange w u
    rwa [hw, hu, V3.dot_comm w u, huw, mul_zero, zero_add, mul_one] at e
  · rw [V3.dot_comm]; exact V3.dot_cross_self_left w u
  · rw [V3.bac_cab, hu, huw, V3.one_smul, V3.zero_smul, V3.sub_zero]

theorem RightHanded.rotate {a b c : V3 ℝ} (h : RightHanded a b c) : RightHanded b c a := by
  have := of_perp h.u1 h.u0 ((V3.dot_comm b a).trans h.o01)
  rwa [h.rh] at this

theorem RightHanded.neg_swap {a b c : V3 ℝ} (h : RightHanded a b c) : RightHanded a (V3.neg c) b := by
  have := of_perp h.u0 h.u1 h.o01
  rwa [V3.cross_anticomm, h.rh] at this

theorem RightHanded.det {a b c : V3 ℝ} (h : RightHanded a b c) : V3.dot (V3.cross a b) c = 1 := by
  rw [h.rh]; exact h.u2

theorem norm_nonneg (v : V3 ℝ) : 0 ≤ V3.norm v := V3.norm_nonneg v

theorem tryNormalize3_some_iff {e : ℝ} {v u : V3 ℝ} :
    tryNormalize3 e v = some u ↔ e < V3.norm v ∧ normalize3 v = u := by
  rw [tryNormalize3_eq]; split <;> simp_all

theorem tryNormalize3_zero {e : ℝ} (he : 0 ≤ e) : tryNormalize3 e (⟨0, 0, 0⟩ : V3 ℝ) = none := by
  rw [tryNormalize3_eq, V3.norm_zero, if_pos he]

theorem tryNormalize3_unit {e : ℝ} (he1 : e < 1) {x : V3 ℝ} (hx : V3.dot x x = 1) :
    tryNormalize3 e x = some x := by
  rw [tryNormalize3_eq, normalize3_eq, V3.normalize_eq_smul, V3.norm_of_unit hx, if_neg (not_le.mpr he1), inv_one,
    V3.one_smul]

theorem tryNormalize3_neg (e : ℝ) (v : V3 ℝ) :
    tryNormalize3 e (V3.neg v) = (tryNormalize3 e v).map V3.neg := by
  rw [tryNormalize3_eq, tryNormalize3_eq, V3.norm_neg, normalize3_eq, V3.normalize_neg]; split <;> rfl

/-- the Gram–Schmidt step all six reduce to (`u`: normalised first argument, `s`: second).  Its second conjunct puts the
    secondary axis on the second argument's side. -/
theorem gs_step {u s : V3 ℝ} (hu : V3.dot u u = 1) (hx : V3.norm (V3.cross u s) ≠ 0) :
    RightHanded u (V3.cross (normalize3 (V3.cross u s)) u) (normalize3 (V3.cross u s)) ∧
      V3.dot (V3.cross (normalize3 (V3.cross u s)) u) s = V3.norm (V3.cross u s) := by
  refine ⟨.of_perp hu (V3.normalize_unit hx) ?_, ?_⟩
  · rw [normalize3_eq, V3.normalize_eq_smul, V3.dot_smul_right, V3.dot_cross_self_left, mul_zero]
  · rw [V3.triple_eq_dot_cross]; exact V3.dot_normalize_self hx

/-- Core A (constructors xy, yz, zx) in closed form: the third normalisation always succeeds and changes nothing,
    because `w × u` is already a unit vector. -/
theorem frameA_eq {e : ℝ} (he : 0 ≤ e) (he1 : e < 1) (p s : V3 ℝ) :
    frameA e p s =
      if V3.norm p ≤ e ∨ V3.norm (V3.cross (normalize3 p) s) ≤ e then none
      else some (normalize3 p, V3.cross (normalize3 (V3.cross (normalize3 p) s)) (normalize3 p),
        normalize3 (V3.cross (normalize3 p) s)) := by
  unfold frameA
  rw [tryNormalize3_eq]
  by_cases h1 : V3.norm p ≤ e
  · rw [if_pos h1, if_pos (Or.inl h1)]
  rw [if_neg h1]; dsimp only
  rw [tryNormalize3_eq]
  by_cases h2 : V3.norm (V3.cross (normalize3 p) s) ≤ e
  · rw [if_pos h2, if_pos (Or.inr h2)]
  rw [if_neg h2, if_neg (not_or.mpr ⟨h1, h2⟩)]; dsimp only
  have hp : V3.norm p ≠ 0 := (lt_of_le_of_lt he (not_le.mp h1)).ne'
  have hx : V3.norm (V3.cross (normalize3 p) s) ≠ 0 := (lt_of_le_of_lt he (not_le.mp h2)).ne'
  rw [tryNormalize3_unit he1 (gs_step (u := normalize3 p) (V3.normalize_unit hp) hx).1.u1]

/-- Core B (constructors xz, yx, zy) takes `s × u = −(u × s)` where A takes `u × s`. -/
theorem frameB_eq (e : ℝ) (p s : V3 ℝ) :
    frameB e p s = (frameA e p s).map fun (u, c, w) => (u, V3.neg w, c) := by
  unfold frameB frameA
  cases tryNormalize3 e p with
  | none => rfl
  | some u =>
    dsimp only
    rw [V3.cross_anticomm s u, tryNormalize3_neg]
    cases tryNormalize3 e (V3.cross u s) with
    | none => rfl
    | some w =>
      dsimp only [Option.map_some]
      rw [V3.cross_neg_right, ← V3.cross_anticomm]
      cases tryNormalize3 e (V3.cross w u) <;> rfl

/-- `f`: the arrangement one of the six constructors makes of the three vectors -/
theorem frameA_spec {β : Type} {f : V3 ℝ × V3 ℝ × V3 ℝ → β} {p s : V3 ℝ} {F : β}
    (h : (frameA eps p s).map f = some F) :
    ∃ u c w, f (u, c, w) = F ∧ RightHanded u c w ∧
      (p = V3.smul (V3.norm p) u ∧ 0 < V3.norm p) ∧ 0 < V3.dot c s := by
  obtain ⟨he, he1⟩ := eps_range
  rw [frameA_eq he he1] at h
  split at h
  · simp at h
  rename_i hn
  obtain ⟨h1, h2⟩ := not_or.mp hn
  have hp : 0 < V3.norm p := lt_of_le_of_lt he (not_le.mp h1)
  have hx : 0 < V3.norm (V3.cross (normalize3 p) s) := lt_of_le_of_lt he (not_le.mp h2)
  obtain ⟨hr, hs⟩ := gs_step (s := s) (V3.normalize_unit hp.ne') hx.ne'
  exact ⟨_, _, _, Option.some.inj h, hr, ⟨(V3.norm_smul_normalize hp.ne').symm, hp⟩, hs ▸ hx⟩

/-- `Iso3::try_from_basis_<kind>` as regenerated from the source: look the recipe up, run it with
    the regenerated threshold -/
noncomputable def construct (kind : String) (a b : V3 ℝ) : Option (Frame3 ℝ) :=
  match Gen.frameRecipes.find? (·.1 = kind) with
  | none => none
  | some (_, pr, se, steps) => runFrame eps pr se steps a b

theorem runFrame_two (e : ℝ) (pr se : Nat) (s1 s2 : Nat × Nat × Nat) (a b : V3 ℝ) :
    runFrame e pr se [s1, s2] a b =
      let z : V3 ℝ := ⟨0, 0, 0⟩
      let F0 : Frame3 ℝ := (Frame3.set ⟨z, z, z⟩ se b).set pr a
      (tryNormalize3 e (F0.get pr)).bind fun u =>
        let F1 := F0.set pr u
        (tryNormalize3 e (V3.cross (F1.get s1.2.1) (F1.get s1.2.2))).bind fun w =>
          let F2 := F1.set s1.1 w
          (tryNormalize3 e (V3.cross (F2.get s2.2.1) (F2.get s2.2.2))).map fun c => F2.set s2.1 c := by
  unfold runFrame
  dsimp only
  cases tryNormalize3 e _ with
  | none => rfl
  | some u =>
    dsimp only [List.foldl, Option.bind_some]
    cases tryNormalize3 e _ with
    | none => rfl
    | some w =>
      dsimp only [Option.bind_some]
      cases tryNormalize3 e _ <;> rfl

/-- core A in the shape of `runFrame_two`'s right side -/
theorem frameA_map {β : Type} (f : V3 ℝ × V3 ℝ × V3 ℝ → β) (e : ℝ) (p s : V3 ℝ) :
    (frameA e p s).map f = (tryNormalize3 e p).bind fun u => (tryNormalize3 e (V3.cross u s)).bind fun w =>
      (tryNormalize3 e (V3.cross w u)).map fun c => f (u, c, w) := by
  unfold frameA
  cases tryNormalize3 e p with
  | none => rfl
  | some u =>
    dsimp only [Option.bind_some]
    cases tryNormalize3 e (V3.cross u s) with
    | none => rfl
    | some w => dsimp only [Option.bind_some]; cases tryNormalize3 e (V3.cross w u) <;> rfl

theorem frameB_map {β : Type} (f : V3 ℝ × V3 ℝ × V3 ℝ → β) (e : ℝ) (p s : V3 ℝ) :
    (frameB e p s).map f = (tryNormalize3 e p).bind fun u => (tryNormalize3 e (V3.cross s u)).bind fun w =>
      (tryNormalize3 e (V3.cross u w)).map fun c => f (u, w, c) := by
  unfold frameB
  cases tryNormalize3 e p with
  | none => rfl
  | some u =>
    dsimp only [Option.bind_some]
    cases tryNormalize3 e (V3.cross s u) with
    | none => rfl
    | some w => dsimp only [Option.bind_some]; cases tryNormalize3 e (V3.cross u w) <;> rfl

/- In the six equalities below `exact` evaluates the lookup in the regenerated table (string comparison) and the slot
   reads and writes at these numerals: the recipe is read from the source, not written here. -/

theorem construct_xy (a b : V3 ℝ) : construct "xy" a b = frameXY eps a b := by
  rw [frameXY, frameA_map]; exact runFrame_two eps 0 1 (2, 0, 1) (1, 2, 0) a b

theorem construct_yz (a b : V3 ℝ) : construct "yz" a b = frameYZ eps a b := by
  rw [frameYZ, frameA_map]; exact runFrame_two eps 1 2 (0, 1, 2) (2, 0, 1) a b

theorem construct_zx (a b : V3 ℝ) : construct "zx" a b = frameZX eps a b := by
  rw [frameZX, frameA_map]; exact runFrame_two eps 2 0 (1, 2, 0) (0, 1, 2) a b

theorem construct_xz (a b : V3 ℝ) : construct "xz" a b = frameXZ eps a b := by
  rw [frameXZ, frameB_map]; exact runFrame_two eps 0 2 (1, 2, 0) (2, 0, 1) a b

theorem construct_yx (a b : V3 ℝ) : construct "yx" a b = frameYX eps a b := by
  rw [frameYX, frameB_map]; exact runFrame_two eps 1 0 (2, 0, 1) (0, 1, 2) a b

theorem construct_zy (a b : V3 ℝ) : construct "zy" a b = frameZY eps a b := by
  rw [frameZY, frameB_map]; exact runFrame_two eps 2 1 (0, 1, 2) (1, 2, 0) a b

/-- C19 for one constructor: a proper rotation whose `primary` column is the normalised first argument and whose
    `secondary` column is on the second argument's side -/
structure FrameSpec (F : Frame3 ℝ) (primary secondary a b : V3 ℝ) : Prop where
  rightHanded : RightHanded F.e0 F.e1 F.e2
  primary_is_normalised_first : a = V3.smul (V3.norm a) primary ∧ 0 < V3.norm a
  secondary_in_half_plane : 0 < V3.dot secondary b

theorem xy_spec {a b : V3 ℝ} {F : Frame3 ℝ} (h : construct "xy" a b = some F) :
    FrameSpec F F.e0 F.e1 a b := by
  rw [construct_xy, frameXY] at h
  obtain ⟨u, c, w, rfl, hr, hp, hs⟩ := frameA_spec h
  exact ⟨hr, hp, hs⟩

theorem yz_spec {a b : V3 ℝ} {F : Frame3 ℝ} (h : construct "yz" a b = some F) :
    FrameSpec F F.e1 F.e2 a b := by
  rw [construct_yz, frameYZ] at h
  obtain ⟨u, c, w, rfl, hr, hp, hs⟩ := frameA_spec h
  exact ⟨hr.rotate.rotate, hp, hs⟩

theorem zx_spec {a b : V3 ℝ} {F : Frame3 ℝ} (h : construct "zx" a b = some F) :
    FrameSpec F F.e2 F.e0 a b := by
  rw [construct_zx, frameZX] at h
  obtain ⟨u, c, w, rfl, hr, hp, hs⟩ := frameA_spec h
  exact ⟨hr.rotate, hp, hs⟩

theorem xz_spec {a b : V3 ℝ} {F : Frame3 ℝ} (h : construct "xz" a b = some F) :
    FrameSpec F F.e0 F.e2 a b := by
  rw [construct_xz, frameXZ, frameB_eq, Option.map_map] at h
  obtain ⟨u, c, w, rfl, hr, hp, hs⟩ := frameA_spec h
  exact ⟨hr.neg_swap, hp, hs⟩

theorem yx_spec {a b : V3 ℝ} {F : Frame3 ℝ} (h : construct "yx" a b = some F) :
    FrameSpec F F.e1 F.e0 a b := by
  rw [construct_yx, frameYX, frameB_eq, Option.map_map] at h
  obtain ⟨u, c, w, rfl, hr, hp, hs⟩ := frameA_spec h
  exact ⟨hr.neg_swap.rotate.rotate, hp, hs⟩

theorem zy_spec {a b : V3 ℝ} {F : Frame3 ℝ} (h : construct "zy" a b = some F) :
    FrameSpec F F.e2 F.e1 a b := by
  rw [construct_zy, frameZY, frameB_eq, Option.map_map] at h
  obtain ⟨u, c, w, rfl, hr, hp, hs⟩ := frameA_spec h
  exact ⟨hr.neg_swap.rotate, hp, hs⟩

theorem frameA_none_iff (p s : V3 ℝ) :
    frameA eps p s = none ↔ V3.norm p ≤ eps ∨ V3.norm (V3.cross (normalize3 p) s) ≤ eps := by
  rw [frameA_eq eps_range.1 eps_range.2]; split <;> simp_all

theorem frameA_none_of_degenerate {p s : V3 ℝ} (h : p = ⟨0, 0, 0⟩ ∨ ∃ k : ℝ, s = V3.smul k p) :
    frameA eps p s = none := by
  rw [frameA_none_iff]
  rcases h with rfl | ⟨k, rfl⟩
  · exact Or.inl (V3.norm_zero.trans_le eps_range.1)
  · refine Or.inr ?_
    rw [normalize3_eq, V3.normalize_eq_smul, V3.cross_smul_left, V3.cross_smul_right, V3.cross_self, V3.smul_zero,
      V3.smul_zero, V3.norm_zero]
    exact eps_range.1

/-- C19, failure half: a zero first argument, or a second one parallel or anti-parallel to it or zero. -/
theorem construct_fails_on_degenerate {a b : V3 ℝ} (h : a = ⟨0, 0, 0⟩ ∨ ∃ k : ℝ, b = V3.smul k a) :
    construct "xy" a b = none ∧ construct "xz" a b = none ∧ construct "yz" a b = none ∧
    construct "yx" a b = none ∧ construct "zx" a b = none ∧ construct "zy" a b = none := by
  rw [construct_xy, construct_xz, construct_yz, construct_yx, construct_zx, construct_zy,
    frameXY, frameXZ, frameYZ, frameYX, frameZX, frameZY, frameB_eq, frameA_none_of_degenerate h]
  exact ⟨rfl, rfl, rfl, rfl, rfl, rfl⟩

/-- C19, success: stated for `xy` only. -/
theorem construct_xy_succeeds {a b u : V3 ℝ} (ha : tryNormalize3 eps a = some u)
    (hc : eps < V3.norm (V3.cross u b)) : ∃ F, construct "xy" a b = some F := by
  obtain ⟨hn, rfl⟩ := tryNormalize3_some_iff.mp ha
  rw [construct_xy, frameXY, frameA_eq eps_range.1 eps_range.2,
    if_neg (not_or.mpr ⟨not_le.mpr hn, not_le.mpr hc⟩)]
  exact ⟨_, rfl⟩

theorem toIso_isRot {F : Frame3 ℝ} (h : RightHanded F.e0 F.e1 F.e2) (o : V3 ℝ) :
    C03.IsRot3 (F.toIso o) :=
  .of_orthonormal h.orthonormal

/-- the frame maps the origin of the local system to the given point, and the local axes to the
    columns -/
theorem toIso_apply (F : Frame3 ℝ) (o : V3 ℝ) :
    (F.toIso o).apply ⟨0, 0, 0⟩ = o ∧ (F.toIso o).applyVec ⟨1, 0, 0⟩ = F.e0 ∧
    (F.toIso o).applyVec ⟨0, 1, 0⟩ = F.e1 ∧ (F.toIso o).applyVec ⟨0, 0, 1⟩ = F.e2 := by
  cases F with | mk e0 e1 e2 =>
  cases e0; cases e1; cases e2; cases o
  simp [Frame3.toIso, Iso3.apply, Iso3.applyVec, V3.dot, V3.add]

/-- non-vacuity: a skew, unnormalised pair on which the constructor succeeds -/
example : ∃ u c w, frameA (0 : ℝ) ⟨2, 0, 0⟩ ⟨3, 4, 0⟩ = some (u, c, w) := by
  have h1 : 0 < V3.norm (⟨2, 0, 0⟩ : V3 ℝ) := V3.norm_pos_iff.mpr (by simp [V3.ext_iff])
  have h2 : 0 < V3.norm (V3.cross (normalize3 (⟨2, 0, 0⟩ : V3 ℝ)) ⟨3, 4, 0⟩) :=
    V3.norm_pos_iff.mpr fun h => by
      have := congrArg V3.z h
      simp [V3.cross, normalize3, h1.ne'] at this
  rw [frameA_eq le_rfl one_pos, if_neg (not_or.mpr ⟨not_le.mpr h1, not_le.mpr h2⟩)]
  exact ⟨_, _, _, rfl⟩

end C19
