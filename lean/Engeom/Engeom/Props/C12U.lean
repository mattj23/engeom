import Engeom.Props.C13
import Engeom.Props.C12T
/-
  C12 — `C13.chainCandidate_spec` stated about the REGENERATED `chain_candidates` (src/common/indices.rs), carried over
  by the equality of Props/C12T; and the regenerated `edge_key` of `unique_edges`, on its own (not tied to the model's
  `edgeKey`).
-/
namespace C12U

theorem chain_candidates_spec (pairs : List Nat) (idx : List Edge) (v : Nat) (fwd : Bool) (k i : Nat)
    (hin : ∀ j ∈ pairs, j < idx.length)
    (h : GenRs.chain_candidates pairs (C12T.asArrays idx) v fwd = some (k, i)) :
    pairs[k]? = some i ∧ ∃ e, idx[i]? = some e ∧ (if fwd then e.1 else e.2) = v := by
  rw [C12T.chain_candidates_eq pairs idx v fwd hin] at h
  exact C13.chainCandidate_spec h

/-- for vertex ids of any size: nothing is packed into fewer bits -/
theorem edge_key_identifies_the_undirected_edge (a b c d : Nat) :
    (GenRs.edge_key_lo a b = GenRs.edge_key_lo b a ∧ GenRs.edge_key_hi a b = GenRs.edge_key_hi b a) ∧
    GenRs.edge_key_lo a b ≤ GenRs.edge_key_hi a b ∧
    ((GenRs.edge_key_lo a b = GenRs.edge_key_lo c d ∧ GenRs.edge_key_hi a b = GenRs.edge_key_hi c d) ↔
      ((a = c ∧ b = d) ∨ (a = d ∧ b = c))) := by
  refine ⟨⟨Nat.min_comm a b, Nat.max_comm a b⟩, Nat.le_trans (Nat.min_le_left a b) (Nat.le_max_left a b), ?_⟩
  show (min a b = min c d ∧ max a b = max c d) ↔ _
  omega

/-- `unique_edges` indexes its counting map by the key it is handed, unchanged; that this is the edge's `edge_key`
    is what the translator's pattern enforces -/
theorem unique_edges_counts_under_edge_key (k : Nat) : GenRs.unique_edges_key k = k := rfl

end C12U
