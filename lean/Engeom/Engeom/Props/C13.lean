import Engeom.Model.Section
import Engeom.Model.Topology
import Mathlib.Data.List.Basic
import Mathlib.Data.List.Perm.Basic
/-
  C13 — plane sections, the chaining step: `chained_indices` (src/common/indices.rs; `chainedIndices` of
  Model/Topology.lean) uses every input pair exactly once, for every input list — branching, duplicates,
  inconsistent orientation included.
-/

namespace C13

open List

/-- the edges of the pairs still waiting (`pairs` holds positions in `idx`) -/
def remaining (idx : List Edge) (pairs : List Nat) : List Edge := pairs.filterMap (idx[·]?)

/-- loop measure: every pass either consumes a pair or moves forward → backward → emitted -/
def measure (pairs working : List Nat) (fwd : Bool) : Nat :=
  3 * pairs.length + (if working.isEmpty then 0 else if fwd then 2 else 1)

theorem segsOf_append_single {last : Nat} (b : Nat) : ∀ {w : List Nat}, w.getLast? = some last →
    segsOf (w ++ [b]) = segsOf w ++ [(last, b)]
  | [], h => by simp at h
  | [a], h => by
    obtain rfl : a = last := by simpa using h
    rfl
  | a :: c :: r, h =>
    congrArg ((a, c) :: ·) (segsOf_append_single b (by simpa [List.getLast?_cons_cons] using h))

theorem segsOf_cons (a : Nat) {w : List Nat} {first : Nat} (h : w.head? = some first) :
    segsOf (a :: w) = (a, first) :: segsOf w := by
  cases w with
  | nil => simp at h
  | cons c r =>
    obtain rfl : c = first := by simpa using h
    rfl

theorem swapRemove_perm {β : Type} {l : List β} {k : Nat} {i : β} (h : l[k]? = some i) :
    l.Perm (i :: swapRemove l k) := by
  obtain ⟨hk, rfl⟩ := List.getElem?_eq_some_iff.mp h
  obtain ⟨ys, last, rfl⟩ := (eq_nil_or_concat' l).resolve_left (ne_nil_of_length_pos (by omega))
  simp only [swapRemove, getLast?_concat, length_append, length_singleton, Nat.add_right_cancel_iff, beq_iff_eq]
  split_ifs with hlast
  · subst hlast
    simp
  · have hky : k < ys.length := by simp at hk; omega
    rw [set_append_left _ _ hky, dropLast_concat, getElem_append_left hky]
    -- `last` is written over position `k`: both sides are `last`, `ys[k]` and the rest of `ys`
    exact (perm_append_singleton last ys).trans
      (((getElem_cons_eraseIdx_perm hky).symm.cons last).trans
        ((Perm.swap ..).trans ((set_perm_cons_eraseIdx hky last).symm.cons _)))

theorem chainCandidate_spec {pairs : List Nat} {idx : List Edge} {v : Nat} {fwd : Bool} {k i : Nat}
    (h : chainCandidate pairs idx v fwd = some (k, i)) :
    pairs[k]? = some i ∧ ∃ e, idx[i]? = some e ∧ (if fwd then e.1 else e.2) = v := by
  unfold chainCandidate at h
  dsimp only at h
  split at h
  · rename_i i' k' hc
    obtain ⟨rfl, rfl⟩ : k' = k ∧ i' = i := by simpa using h
    obtain ⟨hz, hp⟩ := List.mem_filter.mp (hc ▸ List.mem_singleton_self (i', k'))
    refine ⟨List.mem_zipIdx_iff_getElem?.mp hz, ?_⟩
    cases he : idx[i']? with
    | none => simp [he] at hp
    | some e => exact ⟨e, rfl, by simpa [he] using hp⟩
  · simp at h

theorem remaining_range : ∀ idx : List Edge, remaining idx (List.range idx.length) = idx
  | [] => rfl
  | a :: t => by
    unfold remaining
    rw [List.length_cons, List.range_succ_eq_map, List.filterMap_cons, List.filterMap_map]
    exact congrArg (a :: ·) (remaining_range t)

theorem measure_bounds (pairs working : List Nat) (fwd : Bool) :
    3 * pairs.length ≤ measure pairs working fwd ∧ measure pairs working fwd ≤ 3 * pairs.length + 2 :=
  ⟨Nat.le_add_right _ _, Nat.add_le_add_left (by split_ifs <;> decide) _⟩

/-- The loop step that consumes pair `i`, joining its edge `e` to the working chain; `ih`: what the loop does next. -/
theorem conserve_take {idx : List Edge} {fuel : Nat} {X C : List Edge} {pairs pairs' working working' : List Nat}
    {fwd fwd' : Bool} {i : Nat} {e : Edge}
    (hp : pairs.Perm (i :: pairs')) (he : idx[i]? = some e) (hw : (segsOf working').Perm (e :: segsOf working))
    (ih : (∀ j ∈ pairs', j < idx.length) → measure pairs' working' fwd' < fuel →
      X.Perm (C ++ segsOf working' ++ remaining idx pairs'))
    (hv : ∀ j ∈ pairs, j < idx.length) (hm : measure pairs working fwd < fuel + 1) :
    X.Perm (C ++ segsOf working ++ remaining idx pairs) := by
  have hr : (remaining idx pairs).Perm (e :: remaining idx pairs') :=
    (hp.filterMap (idx[·]?)).trans (.of_eq (filterMap_cons_some he))
  have hlen : pairs.length = pairs'.length + 1 := by simpa using hp.length_eq
  refine (ih (fun j hj => hv j (hp.symm.subset (mem_cons_of_mem _ hj))) ?_).trans ?_
  · have := (measure_bounds pairs working fwd).1
    have := (measure_bounds pairs' working' fwd').2
    omega
  · simp only [append_assoc]
    exact (((hw.append_right _).trans perm_middle.symm).trans (hr.symm.append_left _)).append_left C

theorem chainLoop_conserves (fuel : Nat) (idx : List Edge) (pairs working : List Nat) (fwd : Bool)
    (chains : List (List Nat)) :
    (∀ i ∈ pairs, i < idx.length) → measure pairs working fwd < fuel →
    ((chainLoop fuel idx pairs working fwd chains).flatMap segsOf).Perm
      (chains.flatMap segsOf ++ segsOf working ++ remaining idx pairs) := by
  fun_induction chainLoop fuel idx pairs working fwd chains
  all_goals intro hv hm
  case case5 fuel idx pairs working fwd chains hp hw i hl e he ih =>
    -- a new chain is started with the last waiting pair
    obtain rfl : working = [] := isEmpty_iff.mp hw
    have hpp := perm_append_singleton i pairs.dropLast
    rw [dropLast_append_getLast? i hl] at hpp
    exact conserve_take hpp he (.refl _) ih hv hm
  case case8 fuel idx pairs working chains hp hw last hl k i hc e he ih =>
    -- forward: the one pair that starts at the chain's last vertex
    obtain ⟨hk, e', he', hsel⟩ := chainCandidate_spec hc
    obtain rfl : e' = e := by simpa [he] using he'.symm
    obtain rfl : e'.1 = last := hsel
    refine conserve_take (swapRemove_perm hk) he ?_ ih hv hm
    rw [segsOf_append_single _ hl]
    exact perm_append_singleton _ _
  case case12 fuel idx pairs working fwd chains hp hw hf first hl k i hc e he ih =>
    -- backward: the one pair that ends at its first vertex
    obtain ⟨hk, e', he', hsel⟩ := chainCandidate_spec hc
    obtain rfl : e' = e := by simpa [he] using he'.symm
    obtain rfl : e'.2 = first := hsel
    refine conserve_take (swapRemove_perm hk) he ?_ ih hv hm
    rw [segsOf_cons _ hl]
  case case10 fuel idx pairs working chains hp hw last hl hc ih =>
    -- nothing continues the chain forward: turn round
    exact ih hv (by simp [measure, hw] at hm ⊢; omega)
  case case14 fuel idx pairs working fwd chains hp hw hf first hl hc ih =>
    -- nor backward: the chain is finished
    refine (ih hv (by simp [measure, hw, hf] at hm ⊢; omega)).trans ?_
    simp [segsOf]
  case case1 | case2 => exact absurd hm (Nat.not_lt_zero _)
  -- no pair is waiting: the loop stops, with or without a working chain to emit
  case case3 fuel idx pairs working fwd chains hp hw =>
    obtain rfl := isEmpty_iff.mp hp
    obtain rfl := isEmpty_iff.mp hw
    simp [segsOf, remaining]
  case case4 fuel idx pairs working fwd chains hp hw =>
    obtain rfl := isEmpty_iff.mp hp
    simp [remaining]
  -- a failed lookup in `idx`: but the waiting pairs are in range, and so is a candidate
  case case6 fuel idx pairs working fwd chains hp hw i hl hx =>
    exact absurd (getElem?_eq_none_iff.mp hx) (Nat.not_le.mpr (hv i (mem_of_getLast? hl)))
  case case9 fuel idx pairs working chains hp hw last hl k i hc hx =>
    obtain ⟨_, e, he, _⟩ := chainCandidate_spec hc
    rw [hx] at he; cases he
  case case13 fuel idx pairs working fwd chains hp hw hf first hl k i hc hx =>
    obtain ⟨_, e, he, _⟩ := chainCandidate_spec hc
    rw [hx] at he; cases he
  -- a non-empty list without last / first element
  case case7 fuel idx pairs working fwd chains hp hw hl =>
    exact (hp (by rw [getLast?_eq_none_iff.mp hl]; rfl)).elim
  case case11 fuel idx pairs working chains hp hw hl =>
    exact (hw (by rw [getLast?_eq_none_iff.mp hl]; rfl)).elim
  case case15 fuel idx pairs working fwd chains hp hw hf hl =>
    exact (hw (by rw [head?_eq_none_iff.mp hl]; rfl)).elim

/-- C13, chaining: each plane–face crossing segment is used exactly once, and consecutive vertices of a curve are
    always joined by one of them. -/
theorem chainedIndices_conserves (idx : List Edge) :
    ((chainedIndices idx).flatMap segsOf).Perm idx := by
  refine (chainLoop_conserves _ idx _ [] true [] (fun i hi => List.mem_range.mp hi) (by simp [measure])).trans ?_
  simp [segsOf, remaining_range]

end C13
