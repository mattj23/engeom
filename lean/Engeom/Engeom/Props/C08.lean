import Engeom.Model.Align
import Engeom.Lemmas.Atan2
import Engeom.Props.C03
import Mathlib.Analysis.SpecialFunctions.Trigonometric.Deriv
import Mathlib.Tactic.LinearCombination
/-
  C08 — alignment parameters (Model/Align.lean), at ℝ: `fromInitial` reproduces the initial isometry (in 3-D provided
  `toWpr` round-trips its rotation, proved only for matrices GIVEN as `Rx·Ry·Rz`), `set` yields a rigid motion, the 2-D
  Jacobian row is the derivative of the residual.  Derivatives of `Rx·Ry·Rz`: Props/C08D; `jacobianRow3`: no theorem.
-/

namespace C08

open Real

@[simp] theorem cosS (a : ℝ) : (Scalar.cos a : ℝ) = Real.cos a := cosR a
@[simp] theorem sinS (a : ℝ) : (Scalar.sin a : ℝ) = Real.sin a := sinR a

theorem iso2_mul_translation_c (T : Iso2 ℝ) (a b : ℝ) :
    (T.mul (iso2Translation a b)).c = T.c ∧ (T.mul (iso2Translation a b)).s = T.s ∧
    ((iso2Translation a b).mul T).c = T.c ∧ ((iso2Translation a b).mul T).s = T.s := by
  simp [Iso2.mul, iso2Translation]

theorem isRot2_translation (a b : ℝ) : C03.IsRot2 (iso2Translation a b) := ⟨by simp [iso2Translation]⟩

theorem isRot2_fromParam (tx ty th : ℝ) : C03.IsRot2 (iso2FromParam tx ty th) :=
  ⟨cos_mul_self_add_sin_mul_self th⟩

theorem aboutOrigin_aboutCenter (rc : V2 ℝ) (T : Iso2 ℝ) : asIsoAboutOrigin rc (asIsoAboutCenter rc T) = T := by
  obtain ⟨c, s, tx, ty⟩ := T
  simp only [asIsoAboutOrigin, asIsoAboutCenter, Iso2.mul, iso2Translation, Iso2.apply, Iso2.applyVec, V2.add,
    Iso2.mk.injEq, V2.mk.injEq]
  refine ⟨by ring, by ring, by ring, by ring⟩

/-- Converting a (unit) isometry to parameters and back is the identity. -/
theorem iso2_param_roundtrip (T : Iso2 ℝ) (h : T.c * T.c + T.s * T.s = 1) :
    iso2FromParam (paramFromIso2 T).1 (paramFromIso2 T).2.1 (paramFromIso2 T).2.2 = T := by
  obtain ⟨c, s, t⟩ := T
  simp only [iso2FromParam, paramFromIso2, Iso2.mk.injEq, and_true]
  exact ⟨cos_atan2_unit h, sin_atan2_unit h⟩

/-- For every initial isometry and rotation centre the parameter object reproduces exactly that
    isometry. -/
theorem rc2_fromInitial_transform (initial : Iso2 ℝ) (rc : V2 ℝ) (h : initial.c * initial.c + initial.s * initial.s = 1) :
    (RcParams2.fromInitial initial rc).transform = initial := by
  unfold RcParams2.fromInitial RcParams2.set
  dsimp only
  have hu : C03.IsRot2 (asIsoAboutCenter rc initial) :=
    (isRot2_translation _ _).mul ((C03.IsRot2.mk h).mul (isRot2_translation _ _))
  rw [iso2_param_roundtrip _ hu.unit]
  exact aboutOrigin_aboutCenter rc initial

theorem rc2_set_isRot (rc : V2 ℝ) (x : ℝ × ℝ × ℝ) : C03.IsRot2 (RcParams2.set rc x).transform :=
  (isRot2_translation _ _).mul ((isRot2_fromParam _ _ _).mul (isRot2_translation _ _))

/-- the second conjunct is how `set` defines the moved rotation centre -/
theorem rc2_inverse_consistent (rc : V2 ℝ) (x : ℝ × ℝ × ℝ) (p : V2 ℝ) :
    (RcParams2.set rc x).inverse.apply ((RcParams2.set rc x).transform.apply p) = p ∧
    (RcParams2.set rc x).currentRc = (RcParams2.set rc x).transform.apply rc :=
  ⟨C03.inv_apply_apply2 _ (rc2_set_isRot rc x) p, rfl⟩

theorem rc2_transform_apply (rc : V2 ℝ) (tx ty th : ℝ) (p : V2 ℝ) :
    (RcParams2.set rc (tx, ty, th)).transform.apply p =
      ⟨Real.cos th * (p.x - rc.x) - Real.sin th * (p.y - rc.y) + rc.x + tx,
       Real.sin th * (p.x - rc.x) + Real.cos th * (p.y - rc.y) + rc.y + ty⟩ := by
  simp only [RcParams2.set, asIsoAboutOrigin, iso2FromParam, Iso2.mul, iso2Translation, Iso2.apply, Iso2.applyVec, V2.add,
    V2.mk.injEq, cosS, sinS]
  constructor <;> ring

/-- A pure-translation parameter change translates by that vector wherever the centre is. -/
theorem rc2_pure_translation (rc : V2 ℝ) (tx ty th dx dy : ℝ) (p : V2 ℝ) :
    (RcParams2.set rc (tx + dx, ty + dy, th)).transform.apply p =
      V2.add ((RcParams2.set rc (tx, ty, th)).transform.apply p) ⟨dx, dy⟩ := by
  rw [rc2_transform_apply, rc2_transform_apply]
  simp only [V2.add, V2.mk.injEq]
  constructor <;> ring

/-- affine in `tx`, `ty`, and `A cos th + B sin th + const` in `th`: the form `jac2_hasDerivAt` differentiates -/
theorem rc2_residual (rc p0 n s : V2 ℝ) (tx ty th : ℝ) :
    V2.dot n (V2.sub ((RcParams2.set rc (tx, ty, th)).transform.apply p0) s) =
      n.x * tx + n.y * ty + ((n.x * (p0.x - rc.x) + n.y * (p0.y - rc.y)) * Real.cos th +
        (n.y * (p0.x - rc.x) - n.x * (p0.y - rc.y)) * Real.sin th) + (n.x * (rc.x - s.x) + n.y * (rc.y - s.y)) := by
  rw [rc2_transform_apply]; simp only [V2.dot, V2.sub]; ring

/-- The 2-D Jacobian row is the derivative of the residual `n · (T(x) p₀ − s)` with respect to each
    parameter: `(n.x, n.y, n · rot90 (p − current_rc))` where `p = T(x) p₀`. -/
theorem jac2_hasDerivAt (rc p0 n s : V2 ℝ) (tx ty th : ℝ) :
    let P := RcParams2.set rc (tx, ty, th)
    let J := pointSurfaceJacobian2 (P.transform.apply p0) n P.currentRc
    HasDerivAt (fun t => V2.dot n (V2.sub ((RcParams2.set rc (t, ty, th)).transform.apply p0) s)) J.1 tx ∧
    HasDerivAt (fun t => V2.dot n (V2.sub ((RcParams2.set rc (tx, t, th)).transform.apply p0) s)) J.2.1 ty ∧
    HasDerivAt (fun t => V2.dot n (V2.sub ((RcParams2.set rc (tx, ty, t)).transform.apply p0) s)) J.2.2 th := by
  intro P J
  simp only [rc2_residual]
  refine ⟨?_, ?_, ?_⟩
  · exact (((((hasDerivAt_id tx).const_mul n.x).add_const _).add_const _).add_const _).congr_deriv (mul_one _)
  · exact (((((hasDerivAt_id ty).const_mul n.y).const_add _).add_const _).add_const _).congr_deriv (mul_one _)
  · refine (((((Real.hasDerivAt_cos th).const_mul _).add ((Real.hasDerivAt_sin th).const_mul _)).const_add _).add_const
      _).congr_deriv ?_
    -- the lever arm `T p₀ − T rc` is the rotated `p₀ − rc`
    show _ = V2.dot n ⟨-(V2.sub (P.transform.apply p0) (P.transform.apply rc)).y,
      (V2.sub (P.transform.apply p0) (P.transform.apply rc)).x⟩
    simp only [P, rc2_transform_apply, V2.dot, V2.sub]
    ring

def Orth (m : Mat3 ℝ) : Prop := V3.Orthonormal m.col0 m.col1 m.col2

theorem Orth.isoOf {m : Mat3 ℝ} (h : Orth m) (t : V3 ℝ) : C03.IsRot3 (isoOf m t) := .of_orthonormal h

theorem orth_rotX (a : ℝ) : Orth (rotX a) := by
  have := cos_mul_self_add_sin_mul_self a
  constructor <;> simp only [rotX, Mat3.col0, Mat3.col1, Mat3.col2, V3.dot, cosS, sinS] <;> linarith

theorem orth_rotY (a : ℝ) : Orth (rotY a) := by
  have := cos_mul_self_add_sin_mul_self a
  constructor <;> simp only [rotY, Mat3.col0, Mat3.col1, Mat3.col2, V3.dot, cosS, sinS] <;> linarith

theorem orth_rotZ (a : ℝ) : Orth (rotZ a) := by
  have := cos_mul_self_add_sin_mul_self a
  constructor <;> simp only [rotZ, Mat3.col0, Mat3.col1, Mat3.col2, V3.dot, cosS, sinS] <;> linarith

theorem orth_one : Orth ⟨⟨1, 0, 0⟩, ⟨0, 1, 0⟩, ⟨0, 0, 1⟩⟩ := by
  constructor <;> simp [Mat3.col0, Mat3.col1, Mat3.col2, V3.dot]

/-- the matrix product is the rotation part of `Iso3.mul` -/
theorem Orth.mul {A B : Mat3 ℝ} (hA : Orth A) (hB : Orth B) : Orth (A.mul B) :=
  (C03.IsRot3.mul (hA.isoOf ⟨0, 0, 0⟩) (hB.isoOf ⟨0, 0, 0⟩)).orthonormal

theorem orth_eulerMat (rx ry rz : ℝ) : Orth (eulerMat rx ry rz) :=
  ((orth_rotX rx).mul (orth_rotY ry)).mul (orth_rotZ rz)

theorem isoOf_apply (m : Mat3 ℝ) (t p : V3 ℝ) : (isoOf m t).apply p = V3.add (m.mulVec p) t := rfl

theorem one_mulVec (v : V3 ℝ) : Mat3.mulVec ⟨⟨1, 0, 0⟩, ⟨0, 1, 0⟩, ⟨0, 0, 1⟩⟩ v = v := by
  ext <;> simp [Mat3.mulVec, V3.dot]

theorem rc3_transform_apply (rc rcD : V3 ℝ) (tx ty tz rx ry rz : ℝ) (p : V3 ℝ) :
    (RcParams3.set rc rcD tx ty tz rx ry rz).transform.apply p =
      V3.add (V3.add ((eulerMat rx ry rz).mulVec (V3.sub p rc)) ⟨tx, ty, tz⟩) rcD := by
  show ((isoOf _ rcD).mul ((isoOf (eulerMat rx ry rz) ⟨tx, ty, tz⟩).mul (isoOf _ (V3.neg rc)))).apply p = _
  rw [C03.mul_apply, C03.mul_apply, isoOf_apply, isoOf_apply, isoOf_apply, one_mulVec, one_mulVec, ← V3.sub_eq_add_neg]

theorem rc3_set_isRot (rc rcD : V3 ℝ) (tx ty tz rx ry rz : ℝ) :
    C03.IsRot3 (RcParams3.set rc rcD tx ty tz rx ry rz).transform :=
  (orth_one.isoOf _).mul (((orth_eulerMat rx ry rz).isoOf _).mul (orth_one.isoOf _))

/-- `transform.inv` stands for the stored inverse (the model's `RcParams3` stores none); the second conjunct is how
    `set` defines the moved rotation centre -/
theorem rc3_inverse_consistent (rc rcD : V3 ℝ) (tx ty tz rx ry rz : ℝ) (p : V3 ℝ) :
    (RcParams3.set rc rcD tx ty tz rx ry rz).transform.inv.apply
      ((RcParams3.set rc rcD tx ty tz rx ry rz).transform.apply p) = p ∧
    (RcParams3.set rc rcD tx ty tz rx ry rz).currentRc =
      (RcParams3.set rc rcD tx ty tz rx ry rz).transform.apply rc :=
  ⟨C03.inv_apply_apply _ (rc3_set_isRot rc rcD tx ty tz rx ry rz) p, rfl⟩

theorem rc3_pure_translation (rc rcD : V3 ℝ) (tx ty tz rx ry rz dx dy dz : ℝ) (p : V3 ℝ) :
    (RcParams3.set rc rcD (tx + dx) (ty + dy) (tz + dz) rx ry rz).transform.apply p =
      V3.add ((RcParams3.set rc rcD tx ty tz rx ry rz).transform.apply p) ⟨dx, dy, dz⟩ := by
  rw [rc3_transform_apply, rc3_transform_apply]
  simp only [V3.add, V3.mk.injEq]
  refine ⟨by ring, by ring, by ring⟩

/-- `hR` is proved below for a rotation given as `Rx·Ry·Rz` with `cos ry ≥ ε` (`toWpr_eulerMat`) or `ry = π/2`
    (`toWpr_gimbal`); there is none for the south-pole branch (`ry = −π/2`).  Pointwise, through `rc3_transform_apply`:
    the two `Iso3` records are not compared. -/
theorem rc3_fromInitial_transform (initial : Iso3 ℝ) (rc : V3 ℝ)
    (hR : eulerMat (toWpr ⟨initial.r0, initial.r1, initial.r2⟩).1 (toWpr ⟨initial.r0, initial.r1, initial.r2⟩).2.1
      (toWpr ⟨initial.r0, initial.r1, initial.r2⟩).2.2 = ⟨initial.r0, initial.r1, initial.r2⟩) (p : V3 ℝ) :
    (RcParams3.fromInitial initial rc).transform.apply p = initial.apply p := by
  unfold RcParams3.fromInitial
  dsimp only
  rw [rc3_transform_apply, hR, V3.add_zero]
  -- `T p = R (p − rc) + T rc`
  show V3.add (initial.applyVec (V3.sub p rc)) (initial.apply rc) = _
  rw [← Iso3.apply_sub_apply, V3.sub_add_cancel]

theorem wprEps_pos : (0 : ℝ) < wprEps := ofRatR_pos (by decide) (by decide)

theorem eulerMat_eq (rx ry rz : ℝ) : eulerMat rx ry rz =
    ⟨⟨cos ry * cos rz, -(cos ry * sin rz), sin ry⟩,
     ⟨sin rx * sin ry * cos rz + cos rx * sin rz, cos rx * cos rz - sin rx * sin ry * sin rz, -(sin rx * cos ry)⟩,
     ⟨sin rx * sin rz - cos rx * sin ry * cos rz, cos rx * sin ry * sin rz + sin rx * cos rz, cos rx * cos ry⟩⟩ := by
  simp only [eulerMat, rotX, rotY, rotZ, Mat3.mul, Mat3.col0, Mat3.col1, Mat3.col2, V3.dot, cosS, sinS, Mat3.mk.injEq,
    V3.mk.injEq]
  refine ⟨⟨?_, ?_, ?_⟩, ⟨?_, ?_, ?_⟩, ⟨?_, ?_, ?_⟩⟩ <;> ring

/-- the regular branch of `to_wpr`: `cos y = hypot(m00, m01) ≥ ε` -/
theorem toWpr_regular (m : Mat3 ℝ) (h : wprEps ≤ √(m.r0.x * m.r0.x + m.r0.y * m.r0.y)) :
    toWpr m = (Scalar.atan2 (-m.r1.z) m.r2.z, Scalar.atan2 m.r0.z √(m.r0.x * m.r0.x + m.r0.y * m.r0.y),
      Scalar.atan2 (-m.r0.y) m.r0.x) := by
  have hn := not_lt.2 h
  unfold toWpr
  simp only [sqrtR]
  rw [if_neg (by simp [hn]), if_neg hn]

/-- the north-pole branch: `cos y < ε` and `sin y > 0` -/
theorem toWpr_north (m : Mat3 ℝ) (h : √(m.r0.x * m.r0.x + m.r0.y * m.r0.y) < wprEps) (hs : 0 < m.r0.z) :
    toWpr m = (Scalar.atan2 m.r1.x m.r1.y, π / 2, 0) := by
  unfold toWpr
  simp only [sqrtR]
  rw [if_pos (by simp [h, hs])]
  rfl  -- `Scalar.pi` at ℝ is `π`

/-- Away from gimbal lock the Euler triple itself is recovered. -/
theorem toWpr_eulerMat (rx ry rz : ℝ) (hx : -π < rx ∧ rx ≤ π) (hz : -π < rz ∧ rz ≤ π)
    (hy : -(π / 2) < ry ∧ ry < π / 2) (hc : wprEps ≤ Real.cos ry) :
    toWpr (eulerMat rx ry rz) = (rx, ry, rz) := by
  have hcy : 0 < cos ry := wprEps_pos.trans_le hc
  have hcosy : √(cos ry * cos rz * (cos ry * cos rz) + -(cos ry * sin rz) * -(cos ry * sin rz)) = cos ry := by
    refine (congrArg Real.sqrt ?_).trans (Real.sqrt_mul_self hcy.le)
    linear_combination (cos ry * cos ry) * cos_sq_add_sin_sq rz
  have hpi := half_lt_self Real.pi_pos
  -- `atan2_sin_cos` is about `atan2 (r·sin) (r·cos)`; for the pitch, `hcosy` has taken `cos ry` out: `r = 1`
  have hry := atan2_sin_cos 1 ry one_pos ((neg_lt_neg hpi).trans hy.1) (hy.2.trans hpi).le
  rw [one_mul, one_mul] at hry
  rw [eulerMat_eq, toWpr_regular _ (hc.trans_eq hcosy.symm)]
  dsimp only
  rw [hcosy, neg_neg, neg_neg, mul_comm (sin rx), mul_comm (cos rx), atan2_sin_cos _ rx hcy hx.1 hx.2, hry,
    atan2_sin_cos _ rz hcy hz.1 hz.2]

theorem eulerMat_gimbal (rx rz : ℝ) :
    eulerMat rx (π / 2) rz =
      ⟨⟨0, 0, 1⟩, ⟨Real.sin (rx + rz), Real.cos (rx + rz), 0⟩, ⟨-Real.cos (rx + rz), Real.sin (rx + rz), 0⟩⟩ := by
  rw [eulerMat_eq, cos_pi_div_two, sin_pi_div_two, sin_add, cos_add]
  simp only [zero_mul, mul_zero, neg_zero, mul_one, Mat3.mk.injEq, V3.mk.injEq, true_and, and_true]
  constructor <;> ring

/-- Exactly at gimbal lock (`ry = π/2`) the decomposition returns another triple, `(w, π/2, 0)`, whose matrix is the
    SAME rotation. -/
theorem toWpr_gimbal (rx rz : ℝ) :
    let m := eulerMat rx (π / 2) rz
    eulerMat (toWpr m).1 (toWpr m).2.1 (toWpr m).2.2 = m := by
  intro m
  have hm : m = _ := eulerMat_gimbal rx rz
  have hw : toWpr m = (Scalar.atan2 (Real.sin (rx + rz)) (Real.cos (rx + rz)), π / 2, 0) := by
    rw [hm]
    exact toWpr_north _ (by simp [wprEps_pos]) one_pos
  have hu := cos_mul_self_add_sin_mul_self (rx + rz)
  rw [hw, hm]
  dsimp only
  rw [eulerMat_gimbal, add_zero, cos_atan2_unit hu, sin_atan2_unit hu]

/-- Regression witness for the defect fixed in /repo (D17): the pre-fix test `sin y > 1 − ε` already fires for
    `sin y = 1 − ε/2`.  (Not stated: that pitch is about `√ε ≈ 1e-4` rad away from the pole, where `cos y ≈ √ε` is far
    above `ε`.) -/
theorem toWpr_prefix_band : toWprLocked_prefix ((1 : ℝ) - wprEps / 2) = true := by
  unfold toWprLocked_prefix
  have := wprEps_pos
  simp only [decide_eq_true_eq]; linarith

end C08
