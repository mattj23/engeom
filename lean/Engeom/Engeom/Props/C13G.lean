import Engeom.Model.Section
import Engeom.Props.C03
import Mathlib.Tactic.Ring
/-
  C13 (continued) — the geometry of one crossing: edge ∩ plane, face ∩ plane, conservation of area
  when a triangle is cut, and compatibility with rigid motions.  Every ordered field.
-/

namespace C13

variable {F : Type} [Field F] [LinearOrder F] [IsStrictOrderedRing F]

omit [LinearOrder F] [IsStrictOrderedRing F] in
theorem crossPoint_param (P : Plane3 F) (a b : V3 F) :
    crossPoint P a b =
      V3.add a (V3.smul (-(P.signedDistance a) / (P.signedDistance b - P.signedDistance a)) (V3.sub b a)) := by
  unfold crossPoint Plane3.signedDistance; dsimp only
  rw [neg_sub, sub_sub_sub_cancel_right, V3.dot_sub_right]

omit [LinearOrder F] [IsStrictOrderedRing F] in
theorem signedDistance_lerp (P : Plane3 F) (a b : V3 F) (t : F) :
    P.signedDistance (V3.add a (V3.smul t (V3.sub b a))) =
      P.signedDistance a + t * (P.signedDistance b - P.signedDistance a) := by
  simp only [Plane3.signedDistance, V3.dot_add_right, V3.dot_smul_right, V3.dot_sub_right]; ring

omit [LinearOrder F] [IsStrictOrderedRing F] in
theorem crossPoint_on_plane (P : Plane3 F) (a b : V3 F)
    (h : P.signedDistance a ≠ P.signedDistance b) : P.signedDistance (crossPoint P a b) = 0 := by
  rw [crossPoint_param, signedDistance_lerp, div_mul_cancel₀ _ (sub_ne_zero.mpr h.symm)]
  exact add_neg_cancel _

theorem crossParam_inside {di dj : F} (h : (di < 0 ∧ 0 < dj) ∨ (dj < 0 ∧ 0 < di)) :
    0 < di / (di - dj) ∧ di / (di - dj) < 1 := by
  rcases h with ⟨h1, h2⟩ | ⟨h2, h1⟩
  · have hd : di - dj < 0 := sub_neg.mpr (h1.trans h2)
    exact ⟨div_pos_of_neg_of_neg h1 hd, (div_lt_one_of_neg hd).mpr (sub_lt_self di h2)⟩
  · have hd : 0 < di - dj := sub_pos.mpr (h2.trans h1)
    exact ⟨div_pos h1 hd, (div_lt_one hd).mpr (lt_sub_iff_add_lt.mpr (add_lt_iff_neg_left.mpr h2))⟩

theorem crossPoint_inside (P : Plane3 F) (a b : V3 F)
    (h : (P.signedDistance a < 0 ∧ 0 < P.signedDistance b) ∨
         (P.signedDistance b < 0 ∧ 0 < P.signedDistance a)) :
    ∃ t : F, 0 < t ∧ t < 1 ∧ crossPoint P a b = V3.add a (V3.smul t (V3.sub b a)) := by
  obtain ⟨h0, h1⟩ := crossParam_inside h
  refine ⟨_, h0, h1, ?_⟩
  rw [crossPoint_param, ← neg_sub (P.signedDistance a), neg_div_neg_eq]

/-- a point of the section lying on one edge `(a, b)` of a face, strictly between its ends -/
def CrossesEdge (P : Plane3 F) (x a b : V3 F) : Prop :=
  x = crossPoint P a b ∧
    ((P.signedDistance a < 0 ∧ 0 < P.signedDistance b) ∨ (P.signedDistance b < 0 ∧ 0 < P.signedDistance a))

theorem CrossesEdge.on_plane {P : Plane3 F} {x a b : V3 F} (h : CrossesEdge P x a b) :
    P.signedDistance x = 0 := by
  obtain ⟨rfl, hs⟩ := h
  apply crossPoint_on_plane
  rcases hs with ⟨h1, h2⟩ | ⟨h1, h2⟩
  · exact (h1.trans h2).ne
  · exact (h1.trans h2).ne'

omit [IsStrictOrderedRing F] in
theorem opposite_of_sides_ne {x y : F} (hx : x ≠ 0) (hy : y ≠ 0) (h : decide (x < 0) ≠ decide (y < 0)) :
    (x < 0 ∧ 0 < y) ∨ (y < 0 ∧ 0 < x) := by
  rw [Ne, decide_eq_decide] at h
  by_cases sx : x < 0
  · exact Or.inl ⟨sx, lt_of_le_of_ne (not_lt.mp fun sy => h (iff_of_true sx sy)) hy.symm⟩
  · exact Or.inr ⟨by_contra fun sy => h (iff_of_false sx sy), lt_of_le_of_ne (not_lt.mp sx) hx.symm⟩

/-- The crossing segment of a face (plane through none of its vertices): both ends lie strictly inside two
    different edges of that face — hence on the mesh surface, joined across exactly that face — and on the plane
    (`CrossesEdge.on_plane`).  The edge keys `k1`, `k2`, which join the segments of neighbouring faces, are not in the
    conclusion. -/
theorem faceCrossing_spec (P : Plane3 F) (ia ib ic : Nat) (a b c : V3 F)
    (ha : P.signedDistance a ≠ 0) (hb : P.signedDistance b ≠ 0) (hc : P.signedDistance c ≠ 0)
    {k1 k2 : Nat × Nat} {p q : V3 F}
    (h : faceCrossing P ia ib ic a b c = some ((k1, p), (k2, q))) :
    (CrossesEdge P p c a ∧ CrossesEdge P q a b) ∨ (CrossesEdge P p a b ∧ CrossesEdge P q b c) ∨
      (CrossesEdge P p b c ∧ CrossesEdge P q c a) := by
  unfold faceCrossing at h
  extract_lets key sa sb sc at h
  -- whichever vertex is alone on its side, the two edges returned are those that end in it
  split_ifs at h with h0 h1 h2 <;> cases h
  · exact Or.inl ⟨⟨rfl, opposite_of_sides_ne hc ha fun e => h0 ⟨(h1.trans e).symm, h1⟩⟩,
      ⟨rfl, opposite_of_sides_ne ha hb fun e => h0 ⟨e, h1⟩⟩⟩
  · exact Or.inr (Or.inl ⟨⟨rfl, opposite_of_sides_ne ha hb fun e => h1 (e.symm.trans h2)⟩,
      ⟨rfl, opposite_of_sides_ne hb hc h1⟩⟩)
  · exact Or.inr (Or.inr ⟨⟨rfl, opposite_of_sides_ne hb hc h1⟩,
      ⟨rfl, opposite_of_sides_ne hc ha fun e => h2 e.symm⟩⟩)

theorem faceCrossing_none (P : Plane3 F) (ia ib ic : Nat) (a b c : V3 F)
    (h : (P.signedDistance a < 0 ↔ P.signedDistance b < 0) ∧
         (P.signedDistance b < 0 ↔ P.signedDistance c < 0)) :
    faceCrossing P ia ib ic a b c = none := by
  unfold faceCrossing; dsimp only
  rw [if_pos ⟨decide_eq_decide.mpr h.1, decide_eq_decide.mpr h.2⟩]

/-- The 1 + 2 triangles into which `local_split` cuts a face crossed on the edges `(c,a)` at `i₁` and `(a,b)` at `i₂`.
    Vector areas: that for `0 ≤ s, t ≤ 1` the scalar areas add up to the area of the face is not stated. -/
theorem split_area_edge_edge (a b c : V3 F) (s t : F) :
    let i2 := V3.add a (V3.smul s (V3.sub b a))
    let i1 := V3.add c (V3.smul t (V3.sub a c))
    areaVec2 a i2 i1 = V3.smul (s * (1 - t)) (areaVec2 a b c) ∧
    areaVec2 i2 b c = V3.smul (1 - s) (areaVec2 a b c) ∧
    areaVec2 i2 c i1 = V3.smul (s * t) (areaVec2 a b c) ∧
    s * (1 - t) + (1 - s) + s * t = 1 := by
  simp only [areaVec2, V3.cross, V3.sub, V3.add, V3.smul, V3.mk.injEq]
  refine ⟨⟨?_, ?_, ?_⟩, ⟨?_, ?_, ?_⟩, ⟨?_, ?_, ?_⟩, ?_⟩ <;> ring

/-- the two triangles when the plane passes through vertex `c` and crosses `(a,b)` at `i` -/
theorem split_area_vertex_edge (a b c : V3 F) (s : F) :
    let i := V3.add a (V3.smul s (V3.sub b a))
    areaVec2 c a i = V3.smul s (areaVec2 a b c) ∧
    areaVec2 b c i = V3.smul (1 - s) (areaVec2 a b c) ∧ s + (1 - s) = 1 := by
  simp only [areaVec2, V3.cross, V3.sub, V3.add, V3.smul, V3.mk.injEq]
  refine ⟨⟨?_, ?_, ?_⟩, ⟨?_, ?_, ?_⟩, ?_⟩ <;> ring

theorem crossPoint_equivariant (T : Iso3 F) (hT : C03.IsRot3 T) (P : Plane3 F)
    (hn : V3.dot P.normal P.normal = 1) (a b : V3 F) :
    crossPoint (P.transformBy T) (T.apply a) (T.apply b) = T.apply (crossPoint P a b) := by
  rw [crossPoint_param, crossPoint_param, C03.plane_signedDistance_invariant T hT P hn,
    C03.plane_signedDistance_invariant T hT P hn, T.apply_sub_apply]
  exact (T.apply_add_smul ..).symm

theorem faceCrossing_equivariant (T : Iso3 F) (hT : C03.IsRot3 T) (P : Plane3 F)
    (hn : V3.dot P.normal P.normal = 1) (ia ib ic : Nat) (a b c : V3 F) :
    faceCrossing (P.transformBy T) ia ib ic (T.apply a) (T.apply b) (T.apply c) =
      (faceCrossing P ia ib ic a b c).map fun s => ((s.1.1, T.apply s.1.2), (s.2.1, T.apply s.2.2)) := by
  unfold faceCrossing; dsimp only
  simp only [C03.plane_signedDistance_invariant T hT P hn, crossPoint_equivariant T hT P hn,
    apply_ite (Option.map _), Option.map_some, Option.map_none]

example : crossPoint (⟨⟨0, 0, 1⟩, 0⟩ : Plane3 ℚ) ⟨0, 0, -1⟩ ⟨0, 0, 3⟩ = ⟨0, 0, 0⟩ := by
  simp only [crossPoint, V3.dot, V3.sub, V3.add, V3.smul]; norm_num

end C13
