import Engeom.Generated.RsC14
import Engeom.Props.C14
import Engeom.Lemmas.Loops
/-
  C14 — translation tie.  The three private workhorses of `TriangleFilter` (src/geom3/mesh/filtering.rs) — `to_check`,
  `mutate` (the per-face predicate loop) and `mutate_pass_list` (merging a pass list under Add / Remove / Keep) — are
  regenerated with the `HashSet<usize>` of selected faces read as a list used as a set (`insert` = append unless
  present, `remove` / `retain` = filter).  They select the faces the model's `Filter.toCheck` / `mutate` /
  `mutatePassList` select: equal lists where the code does not depend on the set's iteration order, equal MEMBERSHIP
  (the meaning of a HashSet) for the insertion loops.
-/
namespace C14T

theorem to_check_eq (s : Filter) (op : SelOp) : GenRs.to_check s.indices s.n op = s.toCheck op := by
  cases op <;> rfl

theorem mutate_mem (s : Filter) (op : SelOp) (P : Nat → Bool) (x : Nat) :
    x ∈ GenRs.mutate s.indices s.n op P ↔ x ∈ (s.mutate op P).indices := by
  cases op with
  | add =>
    rw [C14.mutate_add]
    refine (Loops.mem_foldl_of_step_or (Q := fun i y => y = i ∧ P i = true) (fun acc i y => ?_) _ _ _).trans
      (by simp)
    by_cases hp : P i = true
    · by_cases hi : i ∈ acc
      · -- the guard fails although `P i` holds: `i` is selected already
        simpa [hp, hi] using fun e : y = i => e ▸ hi
      · simp [Loops.mem_setInsert, hp, hi]
    · simp [hp]
  | remove => exact Iff.rfl
  | keep => exact Iff.rfl

theorem mutate_pass_list_mem (s : Filter) (op : SelOp) (pass : List Nat) (x : Nat) :
    x ∈ GenRs.mutate_pass_list s.indices op pass ↔ x ∈ (s.mutatePassList op pass).indices := by
  cases op with
  | add =>
    rw [C14.mutatePassList_add]
    exact (Loops.mem_foldl_of_step_or (fun acc i y => Loops.mem_setInsert acc i y) _ _ _).trans (by simp)
  | remove =>
    rw [C14.mutatePassList_remove]
    exact (Loops.mem_foldl_of_step_and (fun acc i y => Loops.mem_setRemove acc i y) _ _ _).trans (by simp [List.forall_mem_ne])
  | keep => exact Iff.rfl
end C14T
