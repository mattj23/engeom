import Engeom.Props.C05
import Engeom.Props.C05T
import Engeom.Lemmas.Basics
/-
  C05 — theorems of Props/C05 about the REGENERATED `resample_by_count` and counter loop of `fill_gaps` (over ℝ),
  through the ties of Props/C05T; and, about regenerated fragments directly (no theorem ties them to the model's
  `rdp` / `segDist`): which tolerance `simplify` hands on, and that the distance by which Ramer–Douglas–Peucker
  discards a vertex is its distance from the chord SEGMENT.
-/
namespace C05U

theorem ofNatS_real : (C05T.ofNatS : Nat → ℝ) = fun i : Nat => (i : ℝ) := funext ofRatR_nat

theorem resample_by_count2_positions [Inhabited (V2 ℝ)] [Inhabited (V3 ℝ)] (c : Curve ℝ (V2 ℝ)) (n : Nat)
    (hL : 0 ≤ c.length) (hn : 2 ≤ n) :
    ∃ ps : List ℝ, GenRs.resample_by_count2 c n = c.resampleAt ps ∧ ps.length = n ∧ ps.head? = some 0 ∧
      ps.getLast? = some c.length ∧ ∀ p ∈ ps, 0 ≤ p ∧ p ≤ c.length := by
  refine ⟨positionsByCount (fun i : Nat => (i : ℝ)) c.length n, ?_, C05.byCount_positions c.length hL n hn⟩
  rw [C05T.resample_by_count_eq, ofNatS_real]

theorem resample_by_count3_positions [Inhabited (V2 ℝ)] [Inhabited (V3 ℝ)] (c : Curve ℝ (V3 ℝ)) (n : Nat)
    (hL : 0 ≤ c.length) (hn : 2 ≤ n) :
    ∃ ps : List ℝ, GenRs.resample_by_count3 c n = c.resampleAt ps ∧ ps.length = n ∧ ps.head? = some 0 ∧
      ps.getLast? = some c.length ∧ ∀ p ∈ ps, 0 ≤ p ∧ p ≤ c.length := by
  refine ⟨positionsByCount (fun i : Nat => (i : ℝ)) c.length n, ?_, C05.byCount_positions c.length hL n hn⟩
  rw [C05T.resample_by_count3_eq, ofNatS_real]

/-- `C05.gapCount_spec` from `n = 1`, where the counter of `fill_gaps` starts; `h` is its "enough fuel", casts written out -/
theorem fill_gaps_count_spec [Inhabited (V2 ℝ)] [Inhabited (V3 ℝ)] (d maxd : ℝ) (fuel : Nat)
    (h : maxd < d / ((1 : Nat) + 1 : ℝ) → ∃ k, k ≤ fuel ∧ d / (((1 + k : Nat) : ℝ) + 1) ≤ maxd) :
    d / ((GenRs.fill_gaps_count d maxd fuel : ℝ) + 1) ≤ maxd ∧
    ∀ j, 1 ≤ j → j < GenRs.fill_gaps_count d maxd fuel → maxd < d / ((j : ℝ) + 1) := by
  rw [C05T.fill_gaps_count_eq, ofNatS_real]
  simpa only [Nat.cast_add, Nat.cast_one] using C05.gapCount_spec (fun i => (i : ℝ)) d maxd fuel 1
    (by simpa only [Nat.cast_add, Nat.cast_one] using h)

/-- `simplify`: the reduction runs with the tolerance ASKED for, the simplified curve keeps the curve's own vertex
    tolerance.  The statement only fixes which of the two tolerances each regenerated argument is. -/
theorem simplify_tolerances (e curve_tol : ℝ) :
    GenRs.simplify3_reduction_tol e curve_tol = e ∧ GenRs.simplify3_vertex_tol e curve_tol = curve_tol ∧
    GenRs.simplify2_reduction_tol e curve_tol = e ∧ GenRs.simplify2_vertex_tol e curve_tol = curve_tol :=
  ⟨rfl, rfl, rfl, rfl⟩

/-- the Rust `clamp(0.0, 1.0)` is `min (max q 0) 1`; the model's `segDist` and `clamp_obtuse` clamp in the other order -/
theorem rdp_t_eq (ap ab : V2 ℝ) (L : ℝ) (hL : 0 < L) :
    GenRs.rdp_segment_t ap ab L = max (min (V2.dot ap ab / L) 1) 0 := by
  unfold GenRs.rdp_segment_t
  rw [if_pos hL, smin_eq, smax_eq, max_min_distrib_right, max_eq_left (zero_le_one' ℝ)]

theorem rdp_t_in_unit_interval (ap ab : V2 ℝ) (L : ℝ) :
    0 ≤ GenRs.rdp_segment_t ap ab L ∧ GenRs.rdp_segment_t ap ab L ≤ 1 := by
  by_cases hL : 0 < L
  · rw [rdp_t_eq ap ab L hL]
    exact ⟨le_max_right _ _, max_le (min_le_right _ _) zero_le_one⟩
  · unfold GenRs.rdp_segment_t
    rw [if_neg hL]; exact ⟨le_refl _, zero_le_one⟩

/-- Not the distance from the infinite line through the chord (D3b): a vertex beyond an end of the chord is measured
    from that end.  The degenerate chord (`ab = 0`, parameter 0) is left out. -/
theorem rdp_distance_is_the_minimum_over_the_segment (ap ab : V2 ℝ) (hL : 0 < V2.normSq ab) (s : ℝ) (h0 : 0 ≤ s)
    (h1 : s ≤ 1) :
    GenRs.rdp_segment_dist ap ab (GenRs.rdp_segment_t ap ab (V2.normSq ab)) ≤ V2.norm (V2.sub ap (V2.smul s ab)) := by
  show Real.sqrt (V2.normSq _) ≤ Real.sqrt (V2.normSq _)
  apply Real.sqrt_le_sqrt
  -- the angle at the foot `t·ab` between `ap` and any other point `s·ab` of the chord is not acute
  refine LawfulVec.vnormSq_le_of_dot_nonpos (P := V2 ℝ) (p := ap) (q := V2.smul _ ab) (r := V2.smul s ab) ?_
  have e : ∀ t : ℝ, VecLike.dot (VecLike.sub ap (V2.smul t ab)) (VecLike.sub (V2.smul s ab) (V2.smul t ab)) =
      (s - t) * (V2.dot ap ab - t * V2.normSq ab) := by
    intro t
    show V2.dot (V2.sub ap (V2.smul t ab)) (V2.sub (V2.smul s ab) (V2.smul t ab)) = _
    simp only [V2.dot_sub_left, V2.dot_sub_right, V2.dot_smul_left, V2.dot_smul_right, V2.normSq]; ring
  rw [e, rdp_t_eq ap ab _ hL]
  exact clamp_obtuse _ _ s hL h0 h1

end C05U
