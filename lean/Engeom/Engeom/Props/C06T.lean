import Engeom.Generated.RsC06
/-
  C06 — translation tie: `GenRs.intersection_param`, regenerated from src/geom2/line2.rs, is for every scalar type
  the model's `intersectionParam` that Props/C06 is about.
-/
namespace C06T
set_option linter.unusedSectionVars false
variable {α : Type} [Add α] [Sub α] [Mul α] [Div α] [Neg α] [LT α] [LE α]
  [DecidableLT α] [DecidableLE α] [OfNat α 0] [OfNat α 1] [OfNat α 2] [Scalar α]

theorem intersection_param_eq (a0 ad b0 bd : V2 α) :
    GenRs.intersection_param a0 ad b0 bd = intersectionParam a0 ad b0 bd := rfl
end C06T
