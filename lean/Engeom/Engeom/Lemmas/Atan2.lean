import Engeom.Lemmas.RealScalar
import Mathlib.Analysis.Complex.Norm
/- `atan2 y x = Complex.arg (x + y i)`; a unit vector `(c, s)` is given as `c * c + s * s = 1`. -/

theorem atan2R (y x : ℝ) : (Scalar.atan2 y x : ℝ) = Complex.arg ⟨x, y⟩ := rfl

theorem cos_mul_self_add_sin_mul_self (t : ℝ) : Real.cos t * Real.cos t + Real.sin t * Real.sin t = 1 := by
  rw [← sq, ← sq]; exact Real.cos_sq_add_sin_sq t

theorem norm_complex_mk_unit {c s : ℝ} (h : c * c + s * s = 1) : ‖(⟨c, s⟩ : ℂ)‖ = 1 := by
  rw [Complex.norm_eq_sqrt_sq_add_sq, sq, sq, h, Real.sqrt_one]

theorem cos_atan2_unit {c s : ℝ} (h : c * c + s * s = 1) : Real.cos (Scalar.atan2 s c) = c := by
  have hn := norm_complex_mk_unit h
  rw [atan2R, Complex.cos_arg (ne_zero_of_norm_ne_zero (hn.trans_ne one_ne_zero)), hn, div_one]

theorem sin_atan2_unit {c s : ℝ} (h : c * c + s * s = 1) : Real.sin (Scalar.atan2 s c) = s := by
  rw [atan2R, Complex.sin_arg, norm_complex_mk_unit h, div_one]

open Real in
theorem atan2_sin_cos (r θ : ℝ) (hr : 0 < r) (h1 : -π < θ) (h2 : θ ≤ π) :
    Scalar.atan2 (r * Real.sin θ) (r * Real.cos θ) = θ := by
  have e : (⟨r * Real.cos θ, r * Real.sin θ⟩ : ℂ) = (r : ℂ) * (Complex.cos θ + Complex.sin θ * Complex.I) := by
    apply Complex.ext <;>
      simp [Complex.cos_ofReal_re, Complex.sin_ofReal_re, Complex.cos_ofReal_im, Complex.sin_ofReal_im]
  rw [atan2R, e]
  exact Complex.arg_mul_cos_add_sin_mul_I hr ⟨h1, h2⟩
