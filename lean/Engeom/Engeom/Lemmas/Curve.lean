import Engeom.Lemmas.CurveCore
import Engeom.Lemmas.LawfulVec
import Engeom.Lemmas.RealScalar
import Engeom.Lemmas.Basics
/- The polyline model at ℝ: what needs that a distance is a non-negative `Real.sqrt`, or the order of ℝ.  What holds for
   every scalar type is in CurveCore. -/

section
variable {P : Type} [VecLike P ℝ]

theorem vdist_nonneg (a b : P) : 0 ≤ vdist a b := Real.sqrt_nonneg _

theorem vnorm_pos {v : P} (hv : 0 < VecLike.dot v v) : 0 < vnorm v := Real.sqrt_pos.mpr hv

theorem vnorm_mul_self {v : P} (hv : 0 ≤ VecLike.dot v v) : vnorm v * vnorm v = VecLike.dot v v :=
  Real.mul_self_sqrt hv

theorem vdist_comm [LawfulVec P ℝ] (a b : P) : vdist a b = vdist b a :=
  congrArg Real.sqrt (LawfulVec.vnormSq_sub_comm a b)

theorem vnormalize_unit [LawfulVec P ℝ] {v : P} (hv : 0 < VecLike.dot v v) :
    VecLike.dot (vnormalize v) (vnormalize v) = 1 := by
  -- with `n = ‖v‖`: `(1/n) * ((1/n) * (n * n))`, regrouped as `((1/n) * n) * ((1/n) * n)`
  rw [vnormalize, LawfulVec.dot_smul_left, LawfulVec.dot_smul_right, ← vnorm_mul_self hv.le, ← mul_assoc,
    ← mul_mul_mul_comm, one_div_mul_cancel (vnorm_pos hv).ne', one_mul]

theorem smul_vnorm_vnormalize [LawfulVec P ℝ] (f : ℝ) {u : P} (hu : 0 < VecLike.dot u u) :
    VecLike.smul (f * vnorm u) (vnormalize u) = VecLike.smul f u := by
  rw [vnormalize, LawfulVec.smul_smul, mul_assoc, mul_one_div_cancel (vnorm_pos hu).ne', mul_one]

theorem segDist_self [LawfulVec P ℝ] (a p : P) : segDist a a p = vdist p a := by
  have h : VecLike.dot (VecLike.sub a a) (VecLike.sub a a) = (0 : ℝ) := by rw [LawfulVec.dot_sub_left, sub_self]
  unfold segDist vdist vnorm
  simp only [h, lt_irrefl, if_false, LawfulVec.dot_sub_left, LawfulVec.dot_sub_right, LawfulVec.dot_smul_left,
    LawfulVec.dot_smul_right, zero_mul, sub_zero]

theorem cumLengths_pairwise_le (pts : List P) : (cumLengths pts).Pairwise (· ≤ ·) := by
  cases pts with
  | nil => exact List.pairwise_singleton _ _
  | cons a r =>
    rw [cumLengths, cumLengths_go_eq_scanl]
    refine scanl_add_pairwise_le (fun d hd => ?_) 0
    rw [← List.map_uncurry_zip_eq_zipWith] at hd
    obtain ⟨bc, -, rfl⟩ := List.mem_map.mp hd
    exact vdist_nonneg bc.1 bc.2
end

theorem lerp_div_cancel {F : Type} [Field F] {a b : F} (h : a ≠ b) (l : F) :
    a + (b - a) * ((l - a) / (b - a)) = l := by
  rw [mul_div_cancel₀ _ (sub_ne_zero.mpr h.symm), add_sub_cancel]

section
variable {P : Type} [VecLike P ℝ] [Inhabited P]

/-- `h1` excludes only `i = 0` on a one-vertex curve: there `atVertex 0` is "the end of edge `0 - 1`" and `lengthAlong`
    gives `len 1` -/
theorem Curve.lengthAlong_atVertex (c : Curve ℝ P) (i : Nat) (h1 : 1 ≤ i ∨ i + 1 ≠ c.count) :
    c.lengthAlong (c.atVertex i) = c.len i := by
  by_cases h : i + 1 = c.count
  · rw [Curve.atVertex_of_last h, Curve.lengthAlong, Nat.sub_add_cancel (h1.resolve_right (not_not_intro h)), mul_one,
      add_sub_cancel]
  · rw [Curve.atVertex_of_not_last h, Curve.lengthAlong, mul_zero, add_zero]

theorem Curve.atVertex_on_edge (c : Curve ℝ P) {i : Nat} (hi : i < c.count) (h2 : 2 ≤ c.count) :
    (c.atVertex i).index + 1 < c.count ∧ 0 ≤ (c.atVertex i).fraction ∧ (c.atVertex i).fraction ≤ 1 := by
  by_cases h : i + 1 = c.count
  · rw [Curve.atVertex_of_last h]; exact ⟨by show i - 1 + 1 < c.count; omega, zero_le_one, le_refl _⟩
  · rw [Curve.atVertex_of_not_last h]; exact ⟨by show i + 1 < c.count; omega, le_refl _, zero_le_one⟩

/-- Inside `[0, L]` `at_length` answers strictly inside an edge `i`, or exactly at a vertex `k`.  The index bounds
    are in terms of `c.lengths`: nothing ties its length to the number of vertices. -/
theorem Curve.atLength_cases (c : Curve ℝ P) (hhead : c.lengths.head? = some 0) {l : ℝ} (h0 : 0 ≤ l)
    (hL : l ≤ c.length) :
    (∃ i, i + 1 < c.lengths.length ∧ c.len i < l ∧ l < c.len (i + 1) ∧
      c.atLength l = some ⟨VecLike.add (c.vtx i) (VecLike.smul (l - c.len i) (c.dirOfEdge i)), c.dirOfEdge i, i,
        (l - c.len i) / (c.len (i + 1) - c.len i)⟩) ∨
    ∃ k, k < c.lengths.length ∧ c.len k = l ∧ c.atLength l = some (c.atVertex k) := by
  have hne : c.lengths ≠ [] := fun h => by rw [h] at hhead; exact nomatch hhead
  -- `k`, the first stored length that is not below `l`, exists because the last one is `L`
  have hk : countLt c.lengths l < c.lengths.length := by
    by_contra hc
    have hlt := getElem_lt_of_lt_countLt (ls := c.lengths) (l := l) (j := c.lengths.length - 1)
      ((Nat.sub_one_lt (mt List.length_eq_zero_iff.mp hne)).trans_le (not_lt.mp hc))
    rw [← c.len_eq_getElem, ← c.length_eq_len hne] at hlt
    exact not_le.mpr hlt hL
  have hge : l ≤ c.len (countLt c.lengths l) := by
    rw [c.len_eq_getElem hk]; exact not_lt.mp (not_getElem_countLt_lt hk)
  by_cases hhit : l < c.len (countLt c.lengths l)
  · obtain ⟨i, hi⟩ : ∃ i, countLt c.lengths l = i + 1 :=
      Nat.exists_eq_succ_of_ne_zero fun h => by rw [h, c.len_zero hhead] at hhit; exact not_le.mpr hhit h0
    rw [hi] at hhit hk
    refine Or.inl ⟨i, hk, ?_, hhit, by simp [Curve.atLength, not_lt.mpr h0, not_lt.mpr hL, hi, hhit]⟩
    rw [c.len_eq_getElem (by omega)]; exact getElem_lt_of_lt_countLt (by omega)
  · exact Or.inr ⟨_, hk, le_antisymm (not_lt.mp hhit) hge,
      by simp [Curve.atLength, not_lt.mpr h0, not_lt.mpr hL, hk, hhit]⟩
end
