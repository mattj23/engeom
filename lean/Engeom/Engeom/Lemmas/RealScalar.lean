import Engeom.Scalar
import Mathlib.Analysis.SpecialFunctions.Trigonometric.Inverse
import Mathlib.Analysis.SpecialFunctions.Complex.Arg
import Mathlib.Analysis.SpecialFunctions.Sqrt
/-
  The real-number instance of `Scalar`, used only in proof files.
  `fmod x y = x - y * trunc (x / y)` (C semantics); `atan2 y x = Complex.arg (x + y i)`.
-/

noncomputable section

def Real.truncR (q : ℝ) : ℝ := if 0 ≤ q then (⌊q⌋ : ℝ) else (⌈q⌉ : ℝ)

instance : Scalar ℝ where
  sqrt := Real.sqrt
  sin := Real.sin
  cos := Real.cos
  acos := Real.arccos
  asin := Real.arcsin
  atan2 y x := Complex.arg ⟨x, y⟩
  fmod x y := x - y * Real.truncR (x / y)
  floor x := (⌊x⌋ : ℝ)
  ceil x := (⌈x⌉ : ℝ)
  pi := Real.pi
  ofRat n d := (n : ℝ) / (d : ℝ)

theorem ofRatR (n d : Nat) : (Scalar.ofRat n d : ℝ) = (n : ℝ) / (d : ℝ) := rfl
/-- for the thresholds regenerated as `Gen.X_num / Gen.X_den`: both hypotheses are closed by `decide` -/
theorem ofRatR_pos {n d : Nat} (hn : 0 < n) (hd : 0 < d) : (0 : ℝ) < Scalar.ofRat n d :=
  div_pos (Nat.cast_pos.mpr hn) (Nat.cast_pos.mpr hd)
/-- the cast `i as f64` of the translations -/
theorem ofRatR_nat (i : Nat) : (Scalar.ofRat i 1 : ℝ) = (i : ℝ) := by rw [ofRatR, Nat.cast_one, div_one]
theorem sqrtR (x : ℝ) : (Scalar.sqrt x : ℝ) = Real.sqrt x := rfl
theorem cosR (x : ℝ) : (Scalar.cos x : ℝ) = Real.cos x := rfl
theorem sinR (x : ℝ) : (Scalar.sin x : ℝ) = Real.sin x := rfl
theorem piR : (Scalar.pi : ℝ) = Real.pi := rfl

theorem fmodR_def (x y : ℝ) : Scalar.fmod x y = x - y * Real.truncR (x / y) := rfl

theorem exists_fmodR_eq_add_mul (x y : ℝ) : ∃ k : ℤ, Scalar.fmod x y = x + k * y := by
  rw [fmodR_def]; unfold Real.truncR
  split
  · exact ⟨-⌊x / y⌋, by push_cast; ring⟩
  · exact ⟨-⌈x / y⌉, by push_cast; ring⟩

theorem truncR_neg (q : ℝ) : Real.truncR (-q) = -Real.truncR q := by
  unfold Real.truncR
  rcases lt_trichotomy q 0 with h | rfl | h
  · rw [if_pos (neg_nonneg.2 h.le), if_neg (not_le.2 h), Int.floor_neg, Int.cast_neg]
  · simp
  · rw [if_neg (not_le.2 (neg_neg_of_pos h)), if_pos h.le, Int.ceil_neg, Int.cast_neg]

theorem fmodR_neg_left (x y : ℝ) : (Scalar.fmod (-x) y : ℝ) = -Scalar.fmod x y := by
  rw [fmodR_def, fmodR_def, neg_div, truncR_neg]; ring

theorem fmodR_eq_fract {x y : ℝ} (hy : 0 < y) (hx : 0 ≤ x) : Scalar.fmod x y = y * Int.fract (x / y) := by
  rw [fmodR_def, Real.truncR, if_pos (div_nonneg hx hy.le), Int.fract, mul_sub, mul_div_cancel₀ _ hy.ne']

theorem fmodR_range_of_nonneg {x y : ℝ} (hy : 0 < y) (hx : 0 ≤ x) :
    0 ≤ Scalar.fmod x y ∧ Scalar.fmod x y < y := by
  rw [fmodR_eq_fract hy hx]
  exact ⟨mul_nonneg hy.le (Int.fract_nonneg _), mul_lt_of_lt_one_right hy (Int.fract_lt_one _)⟩

theorem fmodR_range_of_neg {x y : ℝ} (hy : 0 < y) (hx : x < 0) :
    -y < Scalar.fmod x y ∧ Scalar.fmod x y ≤ 0 := by
  have h := fmodR_range_of_nonneg hy (neg_nonneg.2 hx.le)
  rw [fmodR_neg_left] at h
  exact ⟨neg_lt.1 h.2, neg_nonneg.1 h.1⟩

theorem fmodR_of_lt {x y : ℝ} (h0 : 0 ≤ x) (h1 : x < y) : Scalar.fmod x y = x := by
  have hy := h0.trans_lt h1
  rw [fmodR_eq_fract hy h0, Int.fract_eq_self.2 ⟨div_nonneg h0 hy.le, (div_lt_one hy).2 h1⟩, mul_div_cancel₀ _ hy.ne']

theorem fmodR_abs_lt {x y : ℝ} (hy : 0 < y) : -y < Scalar.fmod x y ∧ Scalar.fmod x y < y := by
  rcases le_or_gt 0 x with hx | hx
  · obtain ⟨h1, h2⟩ := fmodR_range_of_nonneg hy hx; exact ⟨(neg_neg_of_pos hy).trans_le h1, h2⟩
  · obtain ⟨h1, h2⟩ := fmodR_range_of_neg hy hx; exact ⟨h1, h2.trans_lt hy⟩

end
