import Engeom.Model.Curve
/- What the functions of Model/Curve.lean do, for every scalar type; first the list fact behind every `take_while(…).count()`
   of the model (`countLt` here, `countLe` in Props/C16, `posOf` in Props/C14).  No Mathlib: the translation ties (Props/CxxT)
   import this. -/

theorem List.length_takeWhile_eq_findIdx {α : Type} (p : α → Bool) (l : List α) :
    (l.takeWhile p).length = l.findIdx (fun a => !p a) := by
  rw [List.takeWhile_eq_take_findIdx_not, List.length_take, Nat.min_eq_left List.findIdx_le_length]

section
variable {α : Type} [LT α] [DecidableLT α]

theorem countLt_eq_findIdx (ls : List α) (l : α) : countLt ls l = ls.findIdx (fun v => !decide (v < l)) :=
  List.length_takeWhile_eq_findIdx _ ls

theorem countLt_le_length (ls : List α) (l : α) : countLt ls l ≤ ls.length :=
  (List.takeWhile_sublist _).length_le

theorem getElem_lt_of_lt_countLt {ls : List α} {l : α} {j : Nat} (h : j < countLt ls l) :
    ls[j]'(Nat.lt_of_lt_of_le h (countLt_le_length ls l)) < l := by
  simp only [countLt_eq_findIdx] at h
  simpa using List.not_of_lt_findIdx h

/-- `¬ · < l` and not `l ≤ ·`: there is only `<` here -/
theorem not_getElem_countLt_lt {ls : List α} {l : α} (h : countLt ls l < ls.length) :
    ¬ ls[countLt ls l] < l := by
  simp only [countLt_eq_findIdx] at h ⊢
  simpa using List.findIdx_getElem (w := h)
end

section
variable {α : Type} [Scalar α] {P Q : Type} [VecLike P α] [VecLike Q α]

section
variable [Add α]

/-- the running sums of the edge lengths, each edge paired with the vertex before it -/
theorem cumLengths_go_eq_scanl (acc : α) (prev : P) (r : List P) :
    cumLengths.go acc prev r = List.scanl (· + ·) acc (List.zipWith vdist r (prev :: r)) := by
  induction r generalizing acc prev with
  | nil => rfl
  | cons b r ih => rw [cumLengths.go, ih, List.zipWith_cons_cons, List.scanl_cons]

theorem length_cumLengths_go (acc : α) (prev : P) (r : List P) :
    (cumLengths.go acc prev r).length = r.length + 1 := by
  rw [cumLengths_go_eq_scanl, List.length_scanl, List.length_zipWith, List.length_cons, Nat.min_eq_left (Nat.le_succ _)]

theorem head?_cumLengths_go (acc : α) (prev : P) (r : List P) :
    (cumLengths.go acc prev r).head? = some acc := by
  cases r <;> rfl

theorem length_cumLengths [OfNat α 0] {pts : List P} (hne : pts ≠ []) : (cumLengths pts).length = pts.length := by
  obtain ⟨a, r, rfl⟩ := List.exists_cons_of_ne_nil hne
  exact length_cumLengths_go 0 a r

theorem head?_cumLengths [OfNat α 0] (pts : List P) : (cumLengths pts).head? = some 0 := by
  cases pts with
  | nil => rfl
  | cons a r => exact head?_cumLengths_go 0 a r

theorem cumLengths_go_map (f : P → Q) (h : ∀ a b, vdist (f a) (f b) = vdist a b) (acc : α) (prev : P) (r : List P) :
    cumLengths.go acc (f prev) (r.map f) = cumLengths.go acc prev r := by
  rw [cumLengths_go_eq_scanl, cumLengths_go_eq_scanl, ← List.map_cons, List.zipWith_map]
  simp only [h]

theorem cumLengths_map [OfNat α 0] (f : P → Q) (h : ∀ a b, vdist (f a) (f b) = vdist a b) (pts : List P) :
    cumLengths (pts.map f) = cumLengths pts := by
  cases pts with
  | nil => rfl
  | cons a r => exact cumLengths_go_map f h 0 a r

end

variable [LE α] [DecidableLE α]

theorem dedupTolPts_go_map (f : P → Q) (h : ∀ a b, vdist (f a) (f b) = vdist a b) (tol : α) (last : P) (r : List P) :
    dedupTolPts.go tol (f last) (r.map f) = (dedupTolPts.go tol last r).map f := by
  induction r generalizing last with
  | nil => rfl
  | cons b r ih =>
    simp only [List.map_cons, dedupTolPts.go, h]
    split
    · exact ih last
    · rw [List.map_cons, ih b]

theorem dedupTolPts_map (f : P → Q) (h : ∀ a b, vdist (f a) (f b) = vdist a b) (tol : α) (pts : List P) :
    dedupTolPts tol (pts.map f) = (dedupTolPts tol pts).map f := by
  cases pts with
  | nil => rfl
  | cons a r => simp only [List.map_cons, dedupTolPts, dedupTolPts_go_map f h]
end

section
variable {α P : Type} [Inhabited α]

theorem Curve.len_eq_getElem (c : Curve α P) {i : Nat} (h : i < c.lengths.length) : c.len i = c.lengths[i] := by
  simp [Curve.len, List.getD, h]

theorem Curve.len_zero (c : Curve α P) {z : α} (h : c.lengths.head? = some z) : c.len 0 = z := by
  rw [Curve.len, List.getD_eq_getElem?_getD, ← List.head?_eq_getElem?, h]; rfl

theorem Curve.length_eq_len [OfNat α 0] (c : Curve α P) (hne : c.lengths ≠ []) :
    c.length = c.len (c.lengths.length - 1) := by
  have hi : c.lengths.length - 1 < c.lengths.length := Nat.sub_one_lt (mt List.length_eq_zero_iff.mp hne)
  rw [Curve.length, List.getLast?_eq_getElem?, c.len_eq_getElem hi, List.getElem?_eq_getElem hi, Option.getD_some]
end

section
variable {α : Type} [Div α] [OfNat α 0] [OfNat α 1] [Scalar α] {P : Type} [VecLike P α] [Inhabited P]

theorem Curve.atVertex_of_last {c : Curve α P} {i : Nat} (h : i + 1 = c.count) :
    c.atVertex i = ⟨c.vtx i, c.dirOfVertex i, i - 1, 1⟩ := by
  rw [Curve.atVertex, if_pos (beq_iff_eq.mpr h)]

theorem Curve.atVertex_of_not_last {c : Curve α P} {i : Nat} (h : i + 1 ≠ c.count) :
    c.atVertex i = ⟨c.vtx i, c.dirOfVertex i, i, 0⟩ := by
  rw [Curve.atVertex, if_neg (by simpa using h)]

theorem Curve.atVertex_point (c : Curve α P) (i : Nat) : (c.atVertex i).point = c.vtx i := by
  unfold Curve.atVertex; split <;> rfl
end

section
variable {α : Type} [Sub α] [Div α] [LT α] [DecidableLT α] [OfNat α 0] [OfNat α 1] [Scalar α] [Inhabited α]
  {P : Type} [VecLike P α] [Inhabited P]

/-- `at_length` as the Rust has it, with `binarySearch` in place of the model's count: found at `k` is the vertex arm,
    an insertion point `k` the arm of edge `k - 1` -/
theorem Curve.atLength_eq_search (c : Curve α P) (l : α) :
    c.atLength l = if decide (l < 0) || decide (c.length < l) then none else
      match binarySearch c.lengths l with
      | .found k => some (c.atVertex k)
      | .insert k => some ⟨VecLike.add (c.vtx (k - 1)) (VecLike.smul (l - c.len (k - 1)) (c.dirOfEdge (k - 1))),
          c.dirOfEdge (k - 1), k - 1, (l - c.len (k - 1)) / (c.len (k - 1 + 1) - c.len (k - 1))⟩ := by
  unfold Curve.atLength binarySearch countLt Curve.len
  generalize (c.lengths.takeWhile (fun v => decide (v < l))).length = k
  split
  · rfl
  · by_cases hk : k < c.lengths.length
    · simp only [List.getD_eq_getElem?_getD, List.getElem?_eq_getElem hk, hk, decide_true, Bool.true_and, Option.getD_some]
      by_cases hlt : l < c.lengths[k] <;> simp [hlt]
    · simp [hk]
end

section
variable {α : Type} [Add α] [LT α] [DecidableLT α] (len s : α) (fuel : Nat) {cur : α} (acc : List α)

theorem positionsBySpacing_of_lt (h : cur < len) :
    positionsBySpacing len s (fuel + 1) cur acc = positionsBySpacing len s fuel (cur + s) (acc ++ [cur]) := by
  rw [positionsBySpacing, if_pos h]

theorem positionsBySpacing_of_not_lt (h : ¬ cur < len) : positionsBySpacing len s fuel cur acc = acc := by
  cases fuel with
  | zero => rfl
  | succ k => rw [positionsBySpacing, if_neg h]
end
