import Engeom.Model.Basis
import Engeom.Lemmas.RealScalar
import Mathlib.Tactic.Ring
/-
  The algebra of `V3`, and of `V2` as far as it is used, under the same names.
  Explicit arguments, here and in `LawfulVec`: scalars first, then vectors, each kind in the order of the
  statement (`smul_smul j k a`, `dot_smul_right k a b`); `_left`/`_right` is the argument of `dot`/`cross`
  that is taken apart.  The model spells some things twice; the lemmas speak of `V3.normalize`, `V3.norm`,
  `dot v v`, and `normalize3_eq`, `tryNormalize3_eq`, `normSq_eq_dot` lead there by `rfl`.
-/

attribute [ext] V2 V3

namespace V3
section ring
variable {R : Type} [CommRing R] (j k : R) (a b c : V3 R)

theorem normSq_eq_dot : normSq a = dot a a := rfl

theorem dot_comm : dot a b = dot b a := by simp only [dot]; ring
theorem dot_add_left : dot (add a b) c = dot a c + dot b c := by simp only [dot, add]; ring
theorem dot_sub_left : dot (sub a b) c = dot a c - dot b c := by simp only [dot, sub]; ring
theorem dot_smul_left : dot (smul k a) b = k * dot a b := by simp only [dot, smul]; ring
theorem dot_neg_left : dot (neg a) b = -dot a b := by simp only [dot, neg]; ring
theorem dot_add_right : dot a (add b c) = dot a b + dot a c := by simp only [dot, add]; ring
theorem dot_sub_right : dot a (sub b c) = dot a b - dot a c := by simp only [dot, sub]; ring
theorem dot_smul_right : dot a (smul k b) = k * dot a b := by simp only [dot, smul]; ring
theorem dot_neg_right : dot a (neg b) = -dot a b := by simp only [dot, neg]; ring
theorem dot_zero_left : dot ⟨0, 0, 0⟩ a = 0 := by simp only [dot]; ring
theorem dot_zero_right : dot a ⟨0, 0, 0⟩ = 0 := by simp only [dot]; ring

theorem dot_lincomb (x y z : R) (p u v w : V3 R) :
    dot p (add (add (smul x u) (smul y v)) (smul z w)) = x * dot p u + y * dot p v + z * dot p w := by
  rw [dot_add_right, dot_add_right, dot_smul_right, dot_smul_right, dot_smul_right]

theorem smul_smul : smul j (smul k a) = smul (j * k) a := by
  ext <;> exact (mul_assoc ..).symm
theorem one_smul : smul 1 a = a := by ext <;> exact one_mul _
theorem zero_smul : smul 0 a = ⟨0, 0, 0⟩ := by ext <;> exact zero_mul _
theorem smul_zero : smul k (⟨0, 0, 0⟩ : V3 R) = ⟨0, 0, 0⟩ := by ext <;> exact mul_zero _
theorem neg_smul_neg : smul (-k) (neg a) = smul k a := by ext <;> exact neg_mul_neg ..
theorem smul_add : smul k (add a b) = add (smul k a) (smul k b) := by ext <;> exact mul_add ..
theorem smul_sub : smul k (sub a b) = sub (smul k a) (smul k b) := by ext <;> exact mul_sub ..
theorem sub_zero : sub a ⟨0, 0, 0⟩ = a := by ext <;> exact _root_.sub_zero _
theorem add_zero : add a ⟨0, 0, 0⟩ = a := by ext <;> exact _root_.add_zero _
theorem sub_eq_add_neg : sub a b = add a (neg b) := by ext <;> exact _root_.sub_eq_add_neg ..
theorem add_sub_cancel : add a (sub b a) = b := by ext <;> exact _root_.add_sub_cancel ..
theorem sub_add_cancel : add (sub a b) b = a := by ext <;> exact _root_.sub_add_cancel ..
theorem add_sub_cancel_right : sub (add a b) b = a := by ext <;> exact _root_.add_sub_cancel_right ..
theorem add_sub_cancel_left : sub (add a b) a = b := by ext <;> exact _root_.add_sub_cancel_left ..
theorem add_sub_add_right : sub (add a c) (add b c) = sub a b := by
  ext <;> exact add_sub_add_right_eq_sub ..
theorem add_assoc : add (add a b) c = add a (add b c) := by ext <;> exact _root_.add_assoc ..
theorem add_right_comm : add (add a b) c = add (add a c) b := by ext <;> exact _root_.add_right_comm ..
theorem add_sub_right_comm : sub (add a b) c = add (sub a c) b := by
  ext <;> exact _root_.add_sub_right_comm ..
theorem sub_eq_zero {a b : V3 R} : sub a b = ⟨0, 0, 0⟩ ↔ a = b := by
  simp only [V3.ext_iff, sub, _root_.sub_eq_zero]

/-- the left side is how the model writes a normalisation or a mean -/
theorem mk_div {F : Type} [Field F] (n : F) (v : V3 F) : (⟨v.x / n, v.y / n, v.z / n⟩ : V3 F) = smul n⁻¹ v := by
  ext <;> exact div_eq_inv_mul _ _

theorem cross_anticomm : cross a b = neg (cross b a) := by
  ext <;> simp only [cross, neg] <;> ring
theorem cross_neg_right : cross a (neg b) = neg (cross a b) := by
  ext <;> simp only [cross, neg] <;> ring
theorem cross_smul_right : cross a (smul k b) = smul k (cross a b) := by
  ext <;> simp only [cross, smul] <;> ring
theorem cross_smul_left : cross (smul k a) b = smul k (cross a b) := by
  ext <;> simp only [cross, smul] <;> ring
theorem cross_self : cross a a = ⟨0, 0, 0⟩ := by ext <;> simp only [cross] <;> ring

theorem dot_cross_self_left : dot a (cross a b) = 0 := by simp only [dot, cross]; ring
theorem dot_cross_self_right : dot b (cross a b) = 0 := by simp only [dot, cross]; ring
theorem lagrange : dot a b * dot a b + dot (cross a b) (cross a b) = dot a a * dot b b := by
  simp only [dot, cross]; ring
theorem triple_eq_dot_cross : dot (cross a b) c = dot a (cross b c) := by simp only [dot, cross]; ring
theorem bac_cab : cross a (cross b c) = sub (smul (dot a c) b) (smul (dot a b) c) := by
  ext <;> simp only [cross, sub, smul, dot] <;> ring

/-- `[a,b,c] v = (a·v) b×c + (b·v) c×a + (c·v) a×b` -/
theorem cramer (v : V3 R) :
    smul (dot (cross a b) c) v =
      add (add (smul (dot a v) (cross b c)) (smul (dot b v) (cross c a))) (smul (dot c v) (cross a b)) := by
  ext <;> simp only [cross, add, smul, dot] <;> ring

/-- What `C19.RightHanded`, `C03.IsRot3` (of the columns) and `C19.SvdContract` share; each hands it over by
    `.orthonormal`. -/
structure Orthonormal (a b c : V3 R) : Prop where
  u0 : dot a a = 1
  u1 : dot b b = 1
  u2 : dot c c = 1
  o01 : dot a b = 0
  o02 : dot a c = 0
  o12 : dot b c = 0

namespace Orthonormal
variable {a b c} (h : Orthonormal a b c) (x y z : R)
include h

/-- the Gram determinant -/
theorem triple_sq : dot (cross a b) c * dot (cross a b) c = 1 := by
  have g : dot (cross a b) c * dot (cross a b) c =
      dot a a * (dot b b * dot c c - dot b c * dot b c) - dot a b * (dot a b * dot c c - dot b c * dot a c)
        + dot a c * (dot a b * dot b c - dot b b * dot a c) := by
    simp only [dot, cross]; ring
  rw [g, h.u0, h.u1, h.u2, h.o01, h.o02, h.o12]; ring

theorem coord0 : dot a (add (add (smul x a) (smul y b)) (smul z c)) = x := by
  rw [dot_lincomb, h.u0, h.o01, h.o02, mul_one, mul_zero, mul_zero, _root_.add_zero, _root_.add_zero]
theorem coord1 : dot b (add (add (smul x a) (smul y b)) (smul z c)) = y := by
  rw [dot_lincomb, dot_comm b a, h.o01, h.u1, h.o12, mul_one, mul_zero, mul_zero, zero_add, _root_.add_zero]
theorem coord2 : dot c (add (add (smul x a) (smul y b)) (smul z c)) = z := by
  rw [dot_lincomb, dot_comm c a, dot_comm c b, h.o02, h.o12, h.u2, mul_one, mul_zero, mul_zero, zero_add, zero_add]

theorem coords :
    (⟨dot a (add (add (smul x a) (smul y b)) (smul z c)), dot b (add (add (smul x a) (smul y b)) (smul z c)),
      dot c (add (add (smul x a) (smul y b)) (smul z c))⟩ : V3 R) = ⟨x, y, z⟩ := by
  rw [h.coord0, h.coord1, h.coord2]

theorem dot_comb (x' y' z' : R) :
    dot (add (add (smul x a) (smul y b)) (smul z c)) (add (add (smul x' a) (smul y' b)) (smul z' c)) =
      x * x' + y * y' + z * z' := by
  rw [dot_add_left, dot_add_left, dot_smul_left, dot_smul_left, dot_smul_left, h.coord0, h.coord1, h.coord2]

theorem map {f : V3 R → V3 R} (hf : ∀ u v, dot (f u) (f v) = dot u v) : Orthonormal (f a) (f b) (f c) :=
  ⟨(hf a a).trans h.u0, (hf b b).trans h.u1, (hf c c).trans h.u2, (hf a b).trans h.o01,
    (hf a c).trans h.o02, (hf b c).trans h.o12⟩

theorem eq_zero_of_dot {w : V3 R} (h0 : dot a w = 0) (h1 : dot b w = 0) (h2 : dot c w = 0) :
    w = ⟨0, 0, 0⟩ := by
  have e := congrArg (smul (dot (cross a b) c)) (cramer a b c w)
  rwa [smul_smul, h.triple_sq, one_smul, h0, h1, h2, zero_smul, zero_smul, zero_smul, add_zero,
    add_zero, smul_zero] at e

theorem sum_dot_smul (v : V3 R) :
    add (add (smul (dot a v) a) (smul (dot b v) b)) (smul (dot c v) c) = v := by
  refine sub_eq_zero.mp (h.eq_zero_of_dot ?_ ?_ ?_) <;> rw [dot_sub_right]
  · rw [h.coord0, sub_self]
  · rw [h.coord1, sub_self]
  · rw [h.coord2, sub_self]

end Orthonormal
end ring

section ordered
variable {F : Type} [Field F] [LinearOrder F] [IsStrictOrderedRing F] (v : V3 F)

theorem dot_self_nonneg : 0 ≤ dot v v :=
  add_nonneg (add_nonneg (mul_self_nonneg _) (mul_self_nonneg _)) (mul_self_nonneg _)

theorem dot_self_eq_zero : dot v v = 0 ↔ v = ⟨0, 0, 0⟩ := by
  refine ⟨fun h => ?_, fun h => h ▸ dot_zero_left _⟩
  obtain ⟨hxy, hz⟩ := (add_eq_zero_iff_of_nonneg
    (add_nonneg (mul_self_nonneg _) (mul_self_nonneg _)) (mul_self_nonneg _)).mp h
  obtain ⟨hx, hy⟩ := mul_self_add_mul_self_eq_zero.mp hxy
  exact V3.ext hx hy (mul_self_eq_zero.mp hz)

end ordered

theorem norm_eq_sqrt (v : V3 ℝ) : norm v = Real.sqrt (dot v v) := rfl
theorem norm_mul_self (v : V3 ℝ) : norm v * norm v = dot v v := Real.mul_self_sqrt (dot_self_nonneg v)
theorem norm_nonneg (v : V3 ℝ) : 0 ≤ norm v := Real.sqrt_nonneg _
theorem norm_zero : norm (⟨0, 0, 0⟩ : V3 ℝ) = 0 := by rw [norm_eq_sqrt, dot_zero_left, Real.sqrt_zero]
theorem norm_of_unit {v : V3 ℝ} (h : dot v v = 1) : norm v = 1 := by rw [norm_eq_sqrt, h, Real.sqrt_one]
theorem norm_pos_iff {v : V3 ℝ} : 0 < norm v ↔ v ≠ ⟨0, 0, 0⟩ := by
  rw [Ne, ← dot_self_eq_zero]
  exact Real.sqrt_pos.trans (dot_self_nonneg v).lt_iff_ne'
theorem norm_neg (v : V3 ℝ) : norm (neg v) = norm v := by
  rw [norm_eq_sqrt, norm_eq_sqrt, dot_neg_left, dot_neg_right, _root_.neg_neg]

theorem normalize_eq_smul (v : V3 ℝ) : normalize v = smul (norm v)⁻¹ v := mk_div _ v
theorem norm_smul_normalize {v : V3 ℝ} (h : norm v ≠ 0) : smul (norm v) (normalize v) = v := by
  rw [normalize_eq_smul, smul_smul, mul_inv_cancel₀ h, one_smul]
theorem normalize_unit {v : V3 ℝ} (h : norm v ≠ 0) : dot (normalize v) (normalize v) = 1 := by
  rw [normalize_eq_smul, dot_smul_left, dot_smul_right, ← norm_mul_self, inv_mul_cancel_left₀ h, inv_mul_cancel₀ h]
theorem dot_normalize_self {v : V3 ℝ} (h : norm v ≠ 0) : dot (normalize v) v = norm v := by
  rw [normalize_eq_smul, dot_smul_left, ← norm_mul_self, inv_mul_cancel_left₀ h]
theorem normalize_neg (v : V3 ℝ) : normalize (neg v) = neg (normalize v) := by
  rw [normalize_eq_smul, normalize_eq_smul, norm_neg]
  ext <;> exact mul_neg _ _

end V3

theorem normalize3_eq (v : V3 ℝ) : normalize3 v = V3.normalize v := rfl

theorem tryNormalize3_eq (e : ℝ) (v : V3 ℝ) :
    tryNormalize3 e v = if V3.norm v ≤ e then none else some (normalize3 v) := rfl

namespace Iso3
variable {R : Type} [CommRing R] (T : Iso3 R) (k : R) (a b : V3 R)

theorem applyVec_add : T.applyVec (V3.add a b) = V3.add (T.applyVec a) (T.applyVec b) := by
  ext <;> exact V3.dot_add_right ..
theorem applyVec_sub : T.applyVec (V3.sub a b) = V3.sub (T.applyVec a) (T.applyVec b) := by
  ext <;> exact V3.dot_sub_right ..
theorem applyVec_smul : T.applyVec (V3.smul k a) = V3.smul k (T.applyVec a) := by
  ext <;> exact V3.dot_smul_right ..
theorem applyVec_zero : T.applyVec ⟨0, 0, 0⟩ = ⟨0, 0, 0⟩ := by
  ext <;> exact V3.dot_zero_right ..

theorem applyVec_eq_cols (v : V3 R) :
    T.applyVec v = V3.add (V3.add (V3.smul v.x T.col0) (V3.smul v.y T.col1)) (V3.smul v.z T.col2) := by
  ext <;> simp only [applyVec, col0, col1, col2, V3.dot, V3.add, V3.smul] <;> ring
/-- the closing `rfl`: the columns of `A * B` are the images under `A` of the columns of `B` -/
theorem applyVec_mul (A B : Iso3 R) (v : V3 R) : (A.mul B).applyVec v = A.applyVec (B.applyVec v) := by
  rw [(A.mul B).applyVec_eq_cols, B.applyVec_eq_cols, applyVec_add, applyVec_add, applyVec_smul,
    applyVec_smul, applyVec_smul]; rfl
theorem inv_apply (p : V3 R) :
    T.inv.apply p = ⟨V3.dot T.col0 (V3.sub p T.t), V3.dot T.col1 (V3.sub p T.t), V3.dot T.col2 (V3.sub p T.t)⟩ := by
  -- `T.inv` has the transpose as linear part and minus the transposed `T.t` as translation; the `show` states both
  -- sides through that linear part
  show V3.add (T.inv.applyVec p) (V3.neg (T.inv.applyVec T.t)) = T.inv.applyVec (V3.sub p T.t)
  rw [← V3.sub_eq_add_neg, applyVec_sub]
theorem apply_sub_apply : V3.sub (T.apply a) (T.apply b) = T.applyVec (V3.sub a b) := by
  rw [apply, apply, V3.add_sub_add_right, applyVec_sub]
theorem apply_add_smul : T.apply (V3.add a (V3.smul k b)) = V3.add (T.apply a) (V3.smul k (T.applyVec b)) := by
  rw [apply, apply, applyVec_add, applyVec_smul, V3.add_right_comm]
theorem apply_sub_smul : T.apply (V3.sub a (V3.smul k b)) = V3.sub (T.apply a) (V3.smul k (T.applyVec b)) := by
  rw [apply, apply, applyVec_sub, applyVec_smul, V3.add_sub_right_comm]
/-- The image of a mean is the mean of the images: `s` a sum of points with weights of total `n`, the images sum
    to `T.applyVec s + n • T.t`. -/
theorem apply_mean {F : Type} [Field F] (T : Iso3 F) (s : V3 F) {n : F} (hn : n ≠ 0) :
    T.apply (V3.smul n⁻¹ s) = V3.smul n⁻¹ (V3.add (T.applyVec s) (V3.smul n T.t)) := by
  rw [V3.smul_add, V3.smul_smul, inv_mul_cancel₀ hn, V3.one_smul, ← applyVec_smul]; rfl

end Iso3

theorem Plane3.signedDistance_ofNormalPoint {R : Type} [CommRing R] (n p q : V3 R) :
    (Plane3.ofNormalPoint n p).signedDistance q = V3.dot n (V3.sub q p) :=
  (V3.dot_sub_right n q p).symm

theorem Plane3.transformBy_eq {R : Type} [CommRing R] (P : Plane3 R) (T : Iso3 R) :
    P.transformBy T = Plane3.ofNormalPoint (T.applyVec P.normal) (T.apply (V3.smul P.d P.normal)) := rfl

namespace V2
section ring
variable {R : Type} [CommRing R] (j k : R) (a b c : V2 R)

theorem normSq_eq_dot : normSq a = dot a a := rfl

theorem dot_comm : dot a b = dot b a := by simp only [dot]; ring
theorem dot_add_left : dot (add a b) c = dot a c + dot b c := by simp only [dot, add]; ring
theorem dot_sub_left : dot (sub a b) c = dot a c - dot b c := by simp only [dot, sub]; ring
theorem dot_smul_left : dot (smul k a) b = k * dot a b := by simp only [dot, smul]; ring
theorem dot_neg_left : dot (neg a) b = -dot a b := by simp only [dot, neg]; ring
theorem dot_sub_right : dot a (sub b c) = dot a b - dot a c := by simp only [dot, sub]; ring
theorem dot_smul_right : dot a (smul k b) = k * dot a b := by simp only [dot, smul]; ring
theorem dot_neg_right : dot a (neg b) = -dot a b := by simp only [dot, neg]; ring
theorem dot_zero_left : dot ⟨0, 0⟩ a = 0 := by simp only [dot]; ring

theorem smul_smul : smul j (smul k a) = smul (j * k) a := by
  ext <;> exact (mul_assoc ..).symm
theorem one_smul : smul 1 a = a := by ext <;> exact one_mul _
theorem neg_smul_neg : smul (-k) (neg a) = smul k a := by ext <;> exact neg_mul_neg ..
theorem add_sub_cancel : add a (sub b a) = b := by ext <;> exact _root_.add_sub_cancel ..
theorem sub_eq_zero {a b : V2 R} : sub a b = ⟨0, 0⟩ ↔ a = b := by
  simp only [V2.ext_iff, sub, _root_.sub_eq_zero]

theorem mk_div {F : Type} [Field F] (n : F) (v : V2 F) : (⟨v.x / n, v.y / n⟩ : V2 F) = smul n⁻¹ v := by
  ext <;> exact div_eq_inv_mul _ _

theorem lagrange : dot a b * dot a b + cross a b * cross a b = dot a a * dot b b := by
  simp only [dot, cross]; ring

end ring

section ordered
variable {F : Type} [Field F] [LinearOrder F] [IsStrictOrderedRing F] (v : V2 F)

theorem dot_self_nonneg : 0 ≤ dot v v := add_nonneg (mul_self_nonneg _) (mul_self_nonneg _)

theorem dot_self_eq_zero : dot v v = 0 ↔ v = ⟨0, 0⟩ := by
  refine ⟨fun h => ?_, fun h => h ▸ dot_zero_left _⟩
  obtain ⟨hx, hy⟩ := mul_self_add_mul_self_eq_zero.mp h
  exact V2.ext hx hy

end ordered

theorem norm_eq_sqrt (v : V2 ℝ) : norm v = Real.sqrt (dot v v) := rfl
theorem norm_mul_self (v : V2 ℝ) : norm v * norm v = dot v v := Real.mul_self_sqrt (dot_self_nonneg v)
theorem norm_nonneg (v : V2 ℝ) : 0 ≤ norm v := Real.sqrt_nonneg _
theorem norm_neg (v : V2 ℝ) : norm (neg v) = norm v := by
  rw [norm_eq_sqrt, norm_eq_sqrt, dot_neg_left, dot_neg_right, _root_.neg_neg]

theorem normalize_eq_smul (v : V2 ℝ) : normalize v = smul (norm v)⁻¹ v := mk_div _ v
theorem norm_smul_normalize {v : V2 ℝ} (h : norm v ≠ 0) : smul (norm v) (normalize v) = v := by
  rw [normalize_eq_smul, smul_smul, mul_inv_cancel₀ h, one_smul]
theorem dot_normalize_self {v : V2 ℝ} (h : norm v ≠ 0) : dot (normalize v) v = norm v := by
  rw [normalize_eq_smul, dot_smul_left, ← norm_mul_self, inv_mul_cancel_left₀ h]
theorem normalize_neg (v : V2 ℝ) : normalize (neg v) = neg (normalize v) := by
  rw [normalize_eq_smul, normalize_eq_smul, norm_neg]
  ext <;> exact mul_neg _ _

end V2
