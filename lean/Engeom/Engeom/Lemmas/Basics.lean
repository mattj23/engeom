import Engeom.Model.Prelude
import Mathlib.Algebra.Order.Field.Basic
/- Small facts of order used across the property files; first, that the `smin`, `smax`, `sabs` which the import-free
   model writes with `if` are `min`, `max`, `|·|`. -/

section
variable {L : Type} [LinearOrder L]

theorem smax_eq (a b : L) : smax a b = max a b := (max_def a b).symm
theorem smin_eq (a b : L) : smin a b = min a b := (min_def a b).symm

theorem smin_le_smax (a b : L) : smin a b ≤ smax a b := by
  rw [smin_eq, smax_eq]; exact min_le_max
end

theorem sabs_eq {F : Type} [Field F] [LinearOrder F] [IsStrictOrderedRing F] (a : F) : sabs a = |a| := by
  unfold sabs; split_ifs with h
  · exact (abs_of_neg h).symm
  · exact (abs_of_nonneg (not_lt.mp h)).symm

theorem length_ite_le {α : Type} {c : Prop} [Decidable c] {l₁ l₂ : List α} {n : Nat} (h₁ : l₁.length ≤ n)
    (h₂ : l₂.length ≤ n) : (if c then l₁ else l₂).length ≤ n := by
  split <;> assumption

theorem scanl_add_pairwise_le {M : Type} [AddCommMonoid M] [PartialOrder M] [IsOrderedAddMonoid M] {ds : List M}
    (h : ∀ d ∈ ds, 0 ≤ d) (t : M) : (ds.scanl (· + ·) t).Pairwise (· ≤ ·) := by
  suffices H : (ds.scanl (· + ·) t).Pairwise (· ≤ ·) ∧ ∀ x ∈ ds.scanl (· + ·) t, t ≤ x from H.1
  induction ds generalizing t with
  | nil => simp
  | cons d r ih =>
    have hd : t ≤ t + d := le_add_of_nonneg_right (h d List.mem_cons_self)
    obtain ⟨h1, h2⟩ := ih (fun x hx => h x (List.mem_cons_of_mem _ hx)) (t + d)
    simp only [List.scanl_cons, List.pairwise_cons, List.mem_cons, forall_eq_or_imp]
    exact ⟨⟨fun x hx => hd.trans (h2 x hx), h1⟩, le_refl t, fun x hx => hd.trans (h2 x hx)⟩

section
variable {F : Type} [Field F] [LinearOrder F] [IsStrictOrderedRing F]

/-- Clamping to `[0, 1]` is the projection onto it: seen from the clamped value, `B / A` and any `s` of the interval
    lie on opposite sides.  `max (min · 1) 0` is the order of the model's `segParam`; Rust's `clamp` is
    `min (max · 0) 1` (`C05U.rdp_t_eq`). -/
theorem clamp_obtuse (A B s : F) (hA : 0 < A) (hs0 : 0 ≤ s) (hs1 : s ≤ 1) :
    (s - max (min (B / A) 1) 0) * (B - max (min (B / A) 1) 0 * A) ≤ 0 := by
  have hB : ∀ t, B - t * A = (B / A - t) * A := fun t => by rw [sub_mul, div_mul_cancel₀ _ hA.ne']
  rw [hB, ← mul_assoc]
  refine mul_nonpos_of_nonpos_of_nonneg ?_ hA.le
  rcases le_total (B / A) 0 with h0 | h0
  · rw [min_eq_left (h0.trans zero_le_one), max_eq_right h0, sub_zero, sub_zero]
    exact mul_nonpos_of_nonneg_of_nonpos hs0 h0
  · rw [max_eq_left (le_min h0 zero_le_one)]
    rcases le_total (B / A) 1 with h1 | h1
    · rw [min_eq_left h1, sub_self, mul_zero]
    · rw [min_eq_right h1]
      exact mul_nonpos_of_nonpos_of_nonneg (sub_nonpos.mpr hs1) (sub_nonneg.mpr h1)
end
