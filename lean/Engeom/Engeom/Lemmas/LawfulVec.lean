import Engeom.Model.Closest
import Engeom.Lemmas.Vec

variable {F : Type} [Field F] [LinearOrder F] [IsStrictOrderedRing F]

open VecLike in
/-- The laws that `VecLike` (operations only) lacks.  Nothing relates `add`, `sub` and `smul` to each other (no
    `one_smul`, no `(a - b) + b = a`), so an equation between points can only come from definiteness: show that the
    squared distance is `≤ 0` (`eq_of_vnormSq_sub_le`). -/
class LawfulVec (P : Type) (F : outParam Type) [Field F] [LinearOrder F] [IsStrictOrderedRing F] [VecLike P F] :
    Prop where
  dot_comm (a b : P) : dot a b = dot b a
  dot_add_left (a b c : P) : dot (add a b) c = dot a c + dot b c
  dot_sub_left (a b c : P) : dot (sub a b) c = dot a c - dot b c
  dot_smul_left (k : F) (a b : P) : dot (smul k a) b = k * dot a b
  dot_self_nonneg (a : P) : 0 ≤ dot a a
  eq_of_dot_sub_self (a b : P) : dot (sub a b) (sub a b) = 0 → a = b
  smul_smul (j k : F) (a : P) : smul j (smul k a) = smul (j * k) a

instance : LawfulVec (V2 F) F where
  dot_comm := V2.dot_comm
  dot_add_left := V2.dot_add_left
  dot_sub_left := V2.dot_sub_left
  dot_smul_left := V2.dot_smul_left
  dot_self_nonneg := V2.dot_self_nonneg
  eq_of_dot_sub_self _ _ h := V2.sub_eq_zero.mp ((V2.dot_self_eq_zero _).mp h)
  smul_smul := V2.smul_smul

instance : LawfulVec (V3 F) F where
  dot_comm := V3.dot_comm
  dot_add_left := V3.dot_add_left
  dot_sub_left := V3.dot_sub_left
  dot_smul_left := V3.dot_smul_left
  dot_self_nonneg := V3.dot_self_nonneg
  eq_of_dot_sub_self _ _ h := V3.sub_eq_zero.mp ((V3.dot_self_eq_zero _).mp h)
  smul_smul := V3.smul_smul

namespace LawfulVec
open VecLike
variable {P : Type} [VecLike P F] [LawfulVec P F]

theorem dot_add_right (a b c : P) : dot a (add b c) = dot a b + dot a c := by
  rw [dot_comm, dot_add_left, dot_comm b, dot_comm c]

theorem dot_sub_right (a b c : P) : dot a (sub b c) = dot a b - dot a c := by
  rw [dot_comm, dot_sub_left, dot_comm b, dot_comm c]

theorem dot_smul_right (k : F) (a b : P) : dot a (smul k b) = k * dot a b := by
  rw [dot_comm, dot_smul_left, dot_comm b]

theorem vnormSq_nonneg (v : P) : 0 ≤ vnormSq v := dot_self_nonneg v

theorem vnormSq_sub_eq_zero {a b : P} : vnormSq (sub a b) = 0 ↔ a = b :=
  ⟨eq_of_dot_sub_self a b, fun h => by rw [h, vnormSq, dot_sub_left, sub_self]⟩

theorem eq_of_vnormSq_sub_le {a b : P} (h : vnormSq (sub a b) ≤ 0) : a = b :=
  vnormSq_sub_eq_zero.mp (le_antisymm h (vnormSq_nonneg _))

theorem vnormSq_sub_comm (a b : P) : vnormSq (sub a b) = vnormSq (sub b a) := by
  simp only [vnormSq, dot_sub_left, dot_sub_right]
  rw [dot_comm b a]; ring

/-- about the corner `q` of the triangle `p q r` -/
theorem cosine_rule (p q r : P) :
    vnormSq (sub p r) = vnormSq (sub p q) - 2 * dot (sub p q) (sub r q) + vnormSq (sub r q) := by
  simp only [vnormSq, dot_sub_left, dot_sub_right]
  rw [dot_comm r p, dot_comm q p, dot_comm r q]; ring

theorem vnormSq_le_add_of_dot_le {p q r : P} {s : F} (h : dot (sub p q) (sub r q) ≤ s) :
    vnormSq (sub p q) ≤ vnormSq (sub p r) + 2 * s := by
  rw [cosine_rule p q r]
  linarith [vnormSq_nonneg (sub r q)]

/-- Obtuse-angle criterion.  Every "closest point of a convex set" statement is an instance: check the sign of one
    inner product for every `r` of the set. -/
theorem vnormSq_le_of_dot_nonpos {p q r : P} (h : dot (sub p q) (sub r q) ≤ 0) :
    vnormSq (sub p q) ≤ vnormSq (sub p r) := by
  simpa using vnormSq_le_add_of_dot_le h

end LawfulVec
