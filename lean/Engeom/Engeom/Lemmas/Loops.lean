import Engeom.Model.Prelude
import Mathlib.Order.Basic
import Mathlib.Order.Defs.LinearOrder
import Mathlib.Tactic.SplitIfs
/-
  tools/rs2lean.py emits a `for` over a list as a `List.foldl` whose state is the tuple of the variables the body
  assigns, a `while` as `whileFuel`, `v.push(e)` as `v ++ [e]`, `.iter().enumerate()` as `enumerateL`.  The
  accumulators are general; the emitted loops start from `[]` or `0`.
  Keep the imports light: every translation tie loads this file.
-/
namespace Loops
variable {β γ σ : Type}

/-- `for x in l { acc.push(g x) }` -/
theorem foldl_push (g : β → γ) (l : List β) (init : List γ) :
    l.foldl (fun acc x => acc ++ [g x]) init = init ++ l.map g := by
  rw [List.foldl_append_eq_append, ← List.flatMap_def, ← List.map_eq_flatMap]

/-- `for x in l { if p x { acc.push(g x) } }` -/
theorem foldl_push_if (p : β → Prop) [DecidablePred p] (g : β → γ) (l : List β) (init : List γ) :
    l.foldl (fun acc x => if p x then acc ++ [g x] else acc) init = init ++ (l.filter (fun x => decide (p x))).map g :=
  List.foldl_ite_left.trans (foldl_push g _ init)

/-- `for x in l { s = step s x; acc.push(out s) }` -/
theorem foldl_scan_push (step : σ → β → σ) (out : σ → γ) (l : List β) (s : σ) (acc : List γ) :
    l.foldl (fun (st : σ × List γ) x => (step st.1 x, st.2 ++ [out (step st.1 x)])) (s, acc)
      = (l.foldl step s, acc ++ ((l.scanl step s).tail.map out)) := by
  induction l generalizing s acc with
  | nil => simp
  | cons a r ih =>
    rw [List.foldl_cons, ih]
    -- the tail of the scan over `a :: r` is the scan over `r` from `step s a`
    cases r <;> simp [List.scanl]

/-- `while c(s) { s = b(s) }` computes any function `r` given by the same recursion on the fuel -/
theorem whileFuel_eq_rec {τ : Type} (c : σ → Bool) (b : σ → σ) (out : σ → τ) (r : Nat → σ → τ)
    (h0 : ∀ s, r 0 s = out s) (hs : ∀ k s, r (k + 1) s = if c s then r k (b s) else out s) (k : Nat) (s : σ) :
    out (whileFuel k c b s) = r k s := by
  induction k generalizing s with
  | zero => exact (h0 s).symm
  | succ k ih => rw [whileFuel, hs]; split <;> simp [ih]

/-- `for (i, x) in l.iter().enumerate()` -/
theorem mem_enumerateL {l : List β} {i : Nat} {x : β} : (i, x) ∈ enumerateL l ↔ l[i]? = some x := by
  simp only [enumerateL, List.mem_map, List.mem_zipIdx_iff_getElem?, Prod.exists, Prod.mk.injEq]
  exact ⟨fun ⟨_, _, h, hi, hb⟩ => hi ▸ hb ▸ h, fun h => ⟨x, i, h, rfl, rfl⟩⟩

/-- The one induction behind every arg-min / arg-max loop.  `le a b`: "`b` is at least as good as `a`", any
    preorder (`key a ≤ key b` for a maximum, `key b ≤ key a` for a minimum). -/
theorem foldl_keeps_best {σ ι : Type} (le : σ → σ → Prop) (hrefl : ∀ a, le a a)
    (htrans : ∀ {a b c}, le a b → le b c → le a c) (mk : ι → σ) (step : σ → ι → σ)
    (hstep : ∀ s x, le s (step s x) ∧ le (mk x) (step s x) ∧ (step s x = s ∨ step s x = mk x))
    (l : List ι) (s : σ) :
    le s (l.foldl step s) ∧ (∀ x ∈ l, le (mk x) (l.foldl step s)) ∧
      (l.foldl step s = s ∨ ∃ x ∈ l, l.foldl step s = mk x) := by
  induction l generalizing s with
  | nil => exact ⟨hrefl s, fun _ h => absurd h List.not_mem_nil, Or.inl rfl⟩
  | cons a l ih =>
    obtain ⟨h1, h2, h3⟩ := hstep s a
    obtain ⟨i1, i2, i3⟩ := ih (step s a)
    refine ⟨htrans h1 i1, List.forall_mem_cons.mpr ⟨htrans h2 i1, i2⟩, ?_⟩
    rcases i3 with e | ⟨x, hx, e⟩
    · exact h3.imp e.trans fun e' => ⟨a, List.mem_cons_self, e.trans e'⟩
    · exact Or.inr ⟨x, List.mem_cons_of_mem _ hx, e⟩

/-- `for x in l { if best < key x { best = key x; arg = pay x } }` (first maximum) -/
theorem foldl_first_max {ι τ κ : Type} [LinearOrder κ] (key : ι → κ) (pay : ι → τ) (l : List ι) (s : κ × τ) :
    let r := l.foldl (fun st x => if st.1 < key x then (key x, pay x) else st) s
    s.1 ≤ r.1 ∧ (∀ x ∈ l, key x ≤ r.1) ∧ (r = s ∨ ∃ x ∈ l, r = (key x, pay x)) :=
  foldl_keeps_best (fun a b : κ × τ => a.1 ≤ b.1) (fun _ => le_refl _) le_trans (fun x => (key x, pay x)) _
    (fun st x => by
      dsimp only
      split_ifs with h
      · exact ⟨h.le, le_refl _, Or.inr rfl⟩
      · exact ⟨le_refl _, not_lt.mp h, Or.inl rfl⟩)
    l s

/-- `for c in l { if key c < key best { best = c } }` (first minimum) -/
theorem foldl_first_min {σ κ : Type} [LinearOrder κ] (key : σ → κ) (l : List σ) (s : σ) :
    let r := l.foldl (fun b c => if key c < key b then c else b) s
    key r ≤ key s ∧ (∀ c ∈ l, key r ≤ key c) ∧ (r = s ∨ r ∈ l) := by
  obtain ⟨h1, h2, h3⟩ := foldl_keeps_best (fun a b : σ => key b ≤ key a) (fun _ => le_refl _) (fun h1 h2 => h2.trans h1)
    id (fun b c => if key c < key b then c else b)
    (fun b c => by
      dsimp only [id]
      split_ifs with h
      · exact ⟨h.le, le_refl _, Or.inr rfl⟩
      · exact ⟨le_refl _, not_lt.mp h, Or.inl rfl⟩)
    l s
  exact ⟨h1, h2, h3.imp_right fun ⟨x, hx, e⟩ => e ▸ hx⟩

/-- `HashSet::insert`; the set is kept as a list, of which only membership is meant -/
theorem mem_setInsert (s : List Nat) (a x : Nat) : x ∈ setInsert s a ↔ x ∈ s ∨ x = a := by
  unfold setInsert
  split
  · rename_i h
    have ha : a ∈ s := by simpa using h
    exact ⟨Or.inl, fun h => h.elim id (· ▸ ha)⟩
  · simp

/-- `HashSet::remove` -/
theorem mem_setRemove (s : List Nat) (a x : Nat) : x ∈ setRemove s a ↔ x ∈ s ∧ x ≠ a := by
  simp [setRemove]

/-- `for a in l { … set.insert(…) … }`: every step only adds -/
theorem mem_foldl_of_step_or {Q : β → γ → Prop} {step : List γ → β → List γ}
    (hstep : ∀ acc a x, x ∈ step acc a ↔ x ∈ acc ∨ Q a x) (l : List β) (init : List γ) (x : γ) :
    x ∈ l.foldl step init ↔ x ∈ init ∨ ∃ a ∈ l, Q a x := by
  induction l generalizing init with
  | nil => simp
  | cons b r ih => simp [ih, hstep, or_assoc]

/-- `for a in l { … set.remove(…) … }`: every step only removes -/
theorem mem_foldl_of_step_and {Q : β → γ → Prop} {step : List γ → β → List γ}
    (hstep : ∀ acc a x, x ∈ step acc a ↔ x ∈ acc ∧ Q a x) (l : List β) (init : List γ) (x : γ) :
    x ∈ l.foldl step init ↔ x ∈ init ∧ ∀ a ∈ l, Q a x := by
  induction l generalizing init with
  | nil => simp
  | cons b r ih => simp [ih, hstep, and_assoc]

end Loops
